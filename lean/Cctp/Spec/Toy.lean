import Cctp.Model.Tx
import Cctp.Model.Genesis
import Cctp.Spec.Layout
/-
  A small concrete world in which every user flow succeeds: used by the non-vacuity examples next to the property
  theorems (the hypotheses of a theorem that no state satisfies would make it mean nothing).  "Recovery" returns the
  first two signature bytes, bech32 is the identity, the hash pads / truncates to 32 bytes.
-/
namespace Cctp.Toy
open Cctp.Spec

def ext : Ext :=
  ⟨fun b => (b ++ zeros 32).take 32, fun _ sig => some (sig.take 2), fun b => some b, fun b => some b, id,
   fun a b => a == b, fun _ => true, id⟩
def cfg : Cfg := ⟨List.replicate 20 7, List.replicate 20 7⟩
def alice : Bytes := List.replicate 20 1
def bob : Bytes := List.replicate 20 2
def denom : Bytes := [117]
def led : Ledger := ⟨denom, [((alice, denom), 1000)], [(denom, 1000)], []⟩
def remoteToken : Bytes := List.replicate 32 6
def messenger0 : Bytes := List.replicate 32 5

/-- owner alice, one attester (hex "0101"), threshold 1, nothing paused, domain 0 configured, a limit of 100. -/
def genesis : Genesis where
  owner := alice
  attesterManager := alice
  pauser := alice
  tokenController := alice
  attesters := [[48, 49, 48, 49]]
  limits := [(denom, 100)]
  burnPaused := some false
  sendPaused := some false
  maxBody := some 8000
  nextNonce := some (0, 7)
  threshold := some 1
  pairs := [(0, remoteToken, denom)]
  used := []
  messengers := [(0, messenger0)]

def st : Store := Store.applyAll [] (Genesis.initWrites ext genesis)
def world : World := ⟨st, led⟩

def isOk {α} (r : R α) : Bool := match r with | .ok _ => true | .error _ => false
theorem isOk_iff {α} (r : R α) : isOk r = true ↔ ∃ o, r = .ok o := by cases r <;> simp [isOk]

/-- an outbound user message from alice (as attested later for a replacement). -/
def sentByAlice : Bytes := encodeMessage ⟨0, 4, 0, 3, pad12 alice, List.replicate 32 3, zeros 32, [1, 2]⟩
/-- an inbound burn message for the module: 40 units of the linked token for bob. -/
def inboundBurn : Bytes :=
  encodeMessage ⟨0, 0, 4, 8, messenger0, cfg.modulePadded, zeros 32,
    encodeBurn ⟨0, remoteToken, zeros 12 ++ bob, 40, List.replicate 32 9⟩⟩
def sig1 : Bytes := List.replicate 65 1

def deposit : Msg := .depositForBurn alice (some 5) 0 (List.replicate 32 9) denom
def send : Msg := .sendMessage alice 0 (List.replicate 32 3) [1, 2, 3]
def receive : Msg := .receiveMessage bob inboundBurn sig1
def replace : Msg := .replaceMessage alice sentByAlice sig1 [9] (zeros 32)

/-! the three user flows succeed in this world: evaluated once here, used by the non-vacuity examples of several properties -/
theorem deposit_ok : ∃ o, depositForBurn ext cfg st led alice (some 5) 0 (List.replicate 32 9) denom [] = .ok o :=
  (isOk_iff _).mp (by decide +kernel)
theorem send_ok : ∃ o, handle ext cfg st led send = .ok o := (isOk_iff _).mp (by decide +kernel)
theorem replace_ok : ∃ o, handle ext cfg st led replace = .ok o := (isOk_iff _).mp (by decide +kernel)

end Cctp.Toy
