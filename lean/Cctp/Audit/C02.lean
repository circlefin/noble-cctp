import Cctp.Props.C02
/- GENERATED by bin/check.py: axioms of every theorem of C02 -/
#print axioms Cctp.C02.usedNonceKey_injective
#print axioms Cctp.C02.parsed_in_range
#print axioms Cctp.C02.receive_or_frame
#print axioms Cctp.C02.used_step
#print axioms Cctp.C02.receive_ok_marks
#print axioms Cctp.C02.unused_of_success
#print axioms Cctp.C02.used_count_step
#print axioms Cctp.C02.used_count
#print axioms Cctp.C02.bit_rise
#print axioms Cctp.C02.used_monotone
#print axioms Cctp.C02.at_most_one_success
#print axioms Cctp.C02.used_only_if
#print axioms Cctp.C02.at_most_one_success_txs
#print axioms Cctp.C02.used_monotone_txs
#print axioms Cctp.C02.used_only_if_txs
#print axioms Cctp.C02.query_used_nonce_iff
#print axioms Cctp.C02.query_used_nonce_not_found
#print axioms Cctp.C02.inRange_iff
#print axioms Cctp.C02.nonce_writes_in_range
#print axioms Cctp.C02.inRange_deliver
#print axioms Cctp.C02.used_list_exact
