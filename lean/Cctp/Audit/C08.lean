import Cctp.Props.C08
/- GENERATED by bin/check.py: axioms of every theorem of C08 -/
#print axioms Cctp.C08.sendCore_succeeds
#print axioms Cctp.C08.innerSend_succeeds
#print axioms Cctp.C08.deposit_ok_iff
#print axioms Cctp.C08.deposit_with_caller_ok_iff
#print axioms Cctp.C08.native_keccakLen
#print axioms Cctp.C08.deposit_ok_iff_native
#print axioms Cctp.C08.limit_inclusive
#print axioms Cctp.C08.limit_plus_one_rejected
#print axioms Cctp.C08.limit_lookup_lowercased
#print axioms Cctp.C08.nonpositive_rejected
#print axioms Cctp.C08.body_size_boundary
#print axioms Cctp.C08.toy_keccakLen
