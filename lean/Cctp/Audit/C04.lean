import Cctp.Props.C04
/- GENERATED by bin/check.py: axioms of every theorem of C04 -/
#print axioms Cctp.C04.receive_module_mints_exactly
#print axioms Cctp.C04.receive_other_mints_nothing
#print axioms Cctp.C04.no_other_mint
#print axioms Cctp.C04.mintedBy_eq_zero
#print axioms Cctp.C04.minted_step
#print axioms Cctp.C04.total_minted_eq_sum
#print axioms Cctp.C04.total_minted_eq_sum_txs
#print axioms Cctp.C04.receive_ledger_effect
