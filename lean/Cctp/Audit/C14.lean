import Cctp.Props.C14
/- GENERATED by bin/check.py: axioms of every theorem of C14 -/
#print axioms Cctp.C14.deposit_ok_needs_all
#print axioms Cctp.C14.receive_ok_needs_mint
#print axioms Cctp.C14.deposit_ok_no_fault
#print axioms Cctp.C14.transfer_fault_is_err
#print axioms Cctp.C14.burn_fault_is_err
#print axioms Cctp.C14.mint_fault_is_err
#print axioms Cctp.C14.late_failure_is_err
#print axioms Cctp.C14.failed_transfer_leaves_everything
#print axioms Cctp.C14.panic_rolls_back_too
#print axioms Cctp.C14.failed_tx_leaves_everything
#print axioms Cctp.C14.tx_fails_iff
#print axioms Cctp.C14.committed_tx_is_its_messages
#print axioms Cctp.C14.driver_machine_is_deliverTx
