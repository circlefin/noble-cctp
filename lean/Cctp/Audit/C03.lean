import Cctp.Props.C03
/- GENERATED by bin/check.py: axioms of every theorem of C03 -/
#print axioms Cctp.C03.mintBranch_ok_iff
#print axioms Cctp.C03.mintOrSkip_ok_iff
#print axioms Cctp.C03.receive_ok_iff
#print axioms Cctp.C03.deliver_receive_ok_iff
#print axioms Cctp.C03.receive_not_ok_no_effect
#print axioms Cctp.C03.receive_marks_before_validation
#print axioms Cctp.C03.isOk_iff
#print axioms Cctp.C03.toy_accept_iff
