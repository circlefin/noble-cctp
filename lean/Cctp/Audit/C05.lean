import Cctp.Props.C05
/- GENERATED by bin/check.py: axioms of every theorem of C05 -/
#print axioms Cctp.C05.deposit_ok_calls
#print axioms Cctp.C05.deposit_ledger
#print axioms Cctp.C05.module_account_unchanged
#print axioms Cctp.C05.sender_is_submitter
#print axioms Cctp.C05.module_sender_only_from_deposit
#print axioms Cctp.C05.burnt_step
#print axioms Cctp.C05.burned_eq_sum
#print axioms Cctp.C05.burned_eq_sum_txs
