import Cctp.Props.C01
/- GENERATED by bin/check.py: axioms of every theorem of C01 -/
#print axioms Cctp.C01.loop_ok_iff
#print axioms Cctp.C01.verify_ok_iff
#print axioms Cctp.C01.valid_keys
#print axioms Cctp.C01.valid_implies_t_distinct_enabled
#print axioms Cctp.C01.wrong_length_rejected
#print axioms Cctp.C01.zero_threshold_rejected
#print axioms Cctp.C01.normV_legacy
#print axioms Cctp.C01.normV_modern
#print axioms Cctp.C01.receive_uses_current_config
#print axioms Cctp.C01.replace_uses_current_config
#print axioms Cctp.C01.replace_deposit_uses_current_config
#print axioms Cctp.C01.offsets_exact_below_4GiB
