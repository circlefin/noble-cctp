import Cctp.Props.C06
/- GENERATED by bin/check.py: axioms of every theorem of C06 -/
#print axioms Cctp.C06.send_content
#print axioms Cctp.C06.send_with_caller_content
#print axioms Cctp.C06.deposit_content
#print axioms Cctp.C06.deposit_variants
#print axioms Cctp.C06.replace_event_same_token
#print axioms Cctp.C06.replace_event_content
