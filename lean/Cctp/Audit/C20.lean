import Cctp.Props.C20
import Cctp.Props.C20Static
/- GENERATED by bin/check.py: axioms of every theorem of C20 -/
#print axioms Cctp.C20.replaceMessage_ne_panic
#print axioms Cctp.C20.sendMessage_ne_panic
#print axioms Cctp.C20.sendMessageWithCaller_ne_panic
#print axioms Cctp.C20.depositForBurn_ne_panic
#print axioms Cctp.C20.mintBranch_ne_panic
#print axioms Cctp.C20.receiveMessage_ne_panic
#print axioms Cctp.C20.replaceDepositForBurn_ne_panic
#print axioms Cctp.C20.no_panic_tx
#print axioms Cctp.C20.roles_preserved
#print axioms Cctp.C20.roles_run
#print axioms Cctp.C20.roles_txs
#print axioms Cctp.C20.decoders_never_panic
#print axioms Cctp.C20.verifier_never_panics
#print axioms Cctp.C20.cli_parse_never_panics
#print axioms Cctp.C20.paginate_panics_iff
#print axioms Cctp.C20.paginate_nil_ok
#print axioms Cctp.C20.no_panic_query
#print axioms Cctp.C20.reached_roles
#print axioms Cctp.C20.no_panic_reachable
#print axioms Cctp.C20.no_panic_query_reachable
#print axioms Cctp.C20.schema_is_modelled
#print axioms Cctp.C20.schema_counts
