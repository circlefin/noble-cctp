import Cctp.Props.C18
import Cctp.Props.C18Static
/- GENERATED by bin/check.py: axioms of every theorem of C18 -/
#print axioms Cctp.C18.store_ext
#print axioms Cctp.C18.set_commute
#print axioms Cctp.C18.lastWrite_perm
#print axioms Cctp.C18.init_order_independent
#print axioms Cctp.C18.replay_deterministic
#print axioms Cctp.C18.simulations_leave_no_trace
#print axioms Cctp.C18.simulation_predicts
#print axioms Cctp.C18.no_nondeterminism_sources
