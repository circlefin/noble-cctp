import Cctp.Props.C09
/- GENERATED by bin/check.py: axioms of every theorem of C09 -/
#print axioms Cctp.C09.replace_ok_only_if
#print axioms Cctp.C09.replace_preserves
#print axioms Cctp.C09.replace_deposit_ok_only_if
#print axioms Cctp.C09.replace_deposit_preserves
#print axioms Cctp.C09.replace_no_effects
#print axioms Cctp.C09.replace_leaves_state
#print axioms Cctp.C09.replace_respects_pause
