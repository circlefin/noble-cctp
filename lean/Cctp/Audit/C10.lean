import Cctp.Props.C10
import Cctp.Props.C10Static
/- GENERATED by bin/check.py: axioms of every theorem of C10 -/
#print axioms Cctp.C10.success_requires_role
#print axioms Cctp.C10.unauthorised_fails
#print axioms Cctp.C10.unauthorised_is_error
#print axioms Cctp.C10.pauser_actions_succeed
#print axioms Cctp.C10.owner_body_size_succeeds
#print axioms Cctp.C10.controller_limit_succeeds
#print axioms Cctp.C10.privileged_count
#print axioms Cctp.C10.signer_is_from
