import Cctp.Props.C11
/- GENERATED by bin/check.py: axioms of every theorem of C11 -/
#print axioms Cctp.C11.abs_of_getRole
#print axioms Cctp.C11.updateOwner_ok_iff
#print axioms Cctp.C11.acceptOwner_ok_iff
#print axioms Cctp.C11.updateRole_ok_iff
#print axioms Cctp.C11.abs_deliver
#print axioms Cctp.C11.abs_deliver_other
#print axioms Cctp.C11.roles_refine
#print axioms Cctp.C11.roles_refine_run
#print axioms Cctp.C11.roles_refine_txs
#print axioms Cctp.C11.accept_only_pending
#print axioms Cctp.C11.accept_not_replayable
#print axioms Cctp.C11.supersede
#print axioms Cctp.C11.owner_cannot_self_accept
#print axioms Cctp.C11.Step.ite
#print axioms Cctp.C11.roleStep_step
#print axioms Cctp.C11.Step.keeps
#print axioms Cctp.C11.other_roles_only_by_owner
#print axioms Cctp.C11.owner_changes_only_by_accept
#print axioms Cctp.C11.no_other_tx_touches_roles
