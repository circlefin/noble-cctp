import Cctp.Props.C12
/- GENERATED by bin/check.py: axioms of every theorem of C12 -/
#print axioms Cctp.C12.deposit_unpaused
#print axioms Cctp.C12.send_paused_blocks
#print axioms Cctp.C12.burn_paused_blocks
#print axioms Cctp.C12.no_mint_while_burn_paused
#print axioms Cctp.C12.receive_other_ok_iff
#print axioms Cctp.C12.flag_frame
#print axioms Cctp.C12.burn_flag_frame
#print axioms Cctp.C12.send_flag_frame
#print axioms Cctp.C12.deliver_setFlag
#print axioms Cctp.C12.pause_sets
#print axioms Cctp.C12.pause_idempotent
#print axioms Cctp.C12.admin_available_while_paused
#print axioms Cctp.C12.admin_reads
#print axioms Cctp.C12.admin_ignores_pause_flags
#print axioms Cctp.C12.unpause_restores
