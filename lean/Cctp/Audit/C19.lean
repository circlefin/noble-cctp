import Cctp.Props.C19
import Cctp.Props.C19Static
/- GENERATED by bin/check.py: axioms of every theorem of C19 -/
#print axioms Cctp.C19.get_after_ok
#print axioms Cctp.C19.and_rejects
#print axioms Cctp.C19.add_messenger
#print axioms Cctp.C19.remove_messenger
#print axioms Cctp.C19.messenger_frame
#print axioms Cctp.C19.messenger_keys_distinct
#print axioms Cctp.C19.enable_attester
#print axioms Cctp.C19.disable_attester
#print axioms Cctp.C19.attester_keys_distinct
#print axioms Cctp.C19.set_limit
#print axioms Cctp.C19.limit_keys_distinct
#print axioms Cctp.C19.link_pair
#print axioms Cctp.C19.unlink_pair
#print axioms Cctp.C19.pair_keys_distinct
#print axioms Cctp.C19.single_item_results
#print axioms Cctp.C19.single_item_queries
#print axioms Cctp.C19.token_pair_result
#print axioms Cctp.C19.token_pair_query
#print axioms Cctp.C19.scalar_queries
#print axioms Cctp.C19.pageLoop_items
#print axioms Cctp.C19.pageLoop_total
#print axioms Cctp.C19.offset_page
#print axioms Cctp.C19.chunks_tile
#print axioms Cctp.C19.offset_pages_cover
#print axioms Cctp.C19.pageLoop_nextKey
#print axioms Cctp.C19.key_page
#print axioms Cctp.C19.fromKey_sorted
#print axioms Cctp.C19.key_pages_chain
#print axioms Cctp.C19.first_page
#print axioms Cctp.C19.blt_append_left
#print axioms Cctp.C19.source_keys_as_modelled
