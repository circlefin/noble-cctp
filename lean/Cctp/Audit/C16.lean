import Cctp.Props.C16
import Cctp.Props.C16Static
/- GENERATED by bin/check.py: axioms of every theorem of C16 -/
#print axioms Cctp.C16.gen_layout_is_cctp
#print axioms Cctp.C16.parse_eq_spec
#print axioms Cctp.C16.short_rejected
#print axioms Cctp.C16.field_exact
#print axioms Cctp.C16.bytes_eq
#print axioms Cctp.C16.bytes_eq_spec
#print axioms Cctp.C16.bytes_bad_field_size
#print axioms Cctp.C16.encode_decode_norm
#print axioms Cctp.C16.exists_encode
#print axioms Cctp.C16.encode_decode
#print axioms Cctp.C16.decode_encode
#print axioms Cctp.C16.decode_wf
#print axioms Cctp.C16.burn_parse_eq_spec
#print axioms Cctp.C16.burn_wrong_length_rejected
#print axioms Cctp.C16.burn_bytes_eq
#print axioms Cctp.C16.burn_bytes_eq_spec
#print axioms Cctp.C16.burn_bytes_bad_field_size
#print axioms Cctp.C16.burn_encode_length
#print axioms Cctp.C16.burn_encode_decode_norm
#print axioms Cctp.C16.burn_exists_encode
#print axioms Cctp.C16.burn_encode_decode
#print axioms Cctp.C16.burn_decode_encode
#print axioms Cctp.C16.burn_decode_wf
#print axioms Cctp.C16.parse_encode
#print axioms Cctp.C16.parse_bytes_roundtrip
#print axioms Cctp.C16.bytes_parse_roundtrip
#print axioms Cctp.C16.burn_parse_encode
#print axioms Cctp.C16.burn_bytes_toModel
#print axioms Cctp.C16.burn_parse_bytes_roundtrip
#print axioms Cctp.C16.burn_bytes_parse_roundtrip
#print axioms Cctp.C16.source_constants_as_modelled
