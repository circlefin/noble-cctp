import Cctp.Props.C15
import Cctp.Props.C15Static
/- GENERATED by bin/check.py: axioms of every theorem of C15 -/
#print axioms Cctp.C15.adminOut_writes
#print axioms Cctp.C15.writes_within_documented
#print axioms Cctp.C15.replacements_write_nothing
#print axioms Cctp.C15.failed_tx_commits_nothing
#print axioms Cctp.C15.untouched_outside_documented
#print axioms Cctp.C15.queries_and_export_are_pure
#print axioms Cctp.C15.static_writes_within_documented
#print axioms Cctp.C15.queries_and_export_write_nothing
#print axioms Cctp.C15.entry_points_complete
