import Cctp.Props.C13
/- GENERATED by bin/check.py: axioms of every theorem of C13 -/
#print axioms Cctp.C13.u32_count
#print axioms Cctp.C13.u32_count_le
#print axioms Cctp.C13.disable_guards
#print axioms Cctp.C13.threshold_guards
#print axioms Cctp.C13.getAttester_none
#print axioms Cctp.C13.count_set
#print axioms Cctp.C13.count_del
#print axioms Cctp.C13.unaffected
#print axioms Cctp.C13.inv_step
#print axioms Cctp.C13.inv_preserved
#print axioms Cctp.C13.inv_run
#print axioms Cctp.C13.inv_txs
#print axioms Cctp.C13.inv_from_genesis
#print axioms Cctp.C13.last_attester_kept
#print axioms Cctp.C13.disable_below_threshold_rejected
#print axioms Cctp.C13.threshold_zero_rejected
#print axioms Cctp.C13.threshold_above_count_rejected
#print axioms Cctp.C13.threshold_eq_count_accepted
#print axioms Cctp.C13.enable_duplicate_rejected_no_effect
#print axioms Cctp.C13.disable_unknown_rejected_no_effect
