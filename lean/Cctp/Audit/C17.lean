import Cctp.Props.C17
/- GENERATED by bin/check.py: axioms of every theorem of C17 -/
#print axioms Cctp.C17.validate_iff
#print axioms Cctp.C17.validate_rejects_collisions
#print axioms Cctp.C17.validate_token_lengths
#print axioms Cctp.C17.slots_keys
#print axioms Cctp.C17.initWrites_slots
#print axioms Cctp.C17.get_init_slot
#print axioms Cctp.C17.init_slot
#print axioms Cctp.C17.slot_cls
#print axioms Cctp.C17.slots_init
#print axioms Cctp.C17.init_no_pending
#print axioms Cctp.C17.good_init
#print axioms Cctp.C17.init_roles_set
#print axioms Cctp.C17.init_scalars
#print axioms Cctp.C17.export_init
#print axioms Cctp.C17.default_validates
#print axioms Cctp.C17.default_initialises
#print axioms Cctp.C17.default_roundtrip
#print axioms Cctp.C17.slots_exported
#print axioms Cctp.C17.init_export_partial
#print axioms Cctp.C17.Settled.applyAll
#print axioms Cctp.C17.settled_deliver
#print axioms Cctp.C17.settled_run
#print axioms Cctp.C17.exportable_of_settled
#print axioms Cctp.C17.settled_init
#print axioms Cctp.C17.roundtrip_reachable
#print axioms Cctp.C17.roundtrip_reachable_txs
#print axioms Cctp.C17.exportable_of_init
#print axioms Cctp.C17.export_ignores_pending
#print axioms Cctp.C17.roundtrip_loses_only_pending
#print axioms Cctp.C17.pending_owner_lost
