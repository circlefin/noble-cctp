import Cctp.Props.C07
/- GENERATED by bin/check.py: axioms of every theorem of C07 -/
#print axioms Cctp.C07.counter_eq
#print axioms Cctp.C07.counter_congr
#print axioms Cctp.C07.counter_after_write
#print axioms Cctp.C07.producer_out
#print axioms Cctp.C07.producer_ok_nonce
#print axioms Cctp.C07.producer_or_frame
#print axioms Cctp.C07.counter_deliver
#print axioms Cctp.C07.counter_step
#print axioms Cctp.C07.counter_lt_step
#print axioms Cctp.C07.seq_succ
#print axioms Cctp.C07.nonce_sequence
#print axioms Cctp.C07.nonce_sequence_txs
#print axioms Cctp.C07.nonces_eq_range'
#print axioms Cctp.C07.nonces_distinct
#print axioms Cctp.C07.nonce_wraps
#print axioms Cctp.C07.failure_keeps_counter
#print axioms Cctp.C07.failed_tx_keeps_counter
#print axioms Cctp.C07.replace_keeps_counter
#print axioms Cctp.C07.replace_reuses_nonce
#print axioms Cctp.C07.replace_deposit_reuses_nonce
#print axioms Cctp.C07.query_counter
