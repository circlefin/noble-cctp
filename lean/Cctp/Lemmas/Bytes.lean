import Cctp.Model.Bytes
import Cctp.Model.Attest
/-
  Big-endian encoding: length, decode∘encode, encode∘decode, injectivity; cutting a byte string into
  fields of known width; `isPrefixOf` as core's prefix relation; Go's `uint64` wrap-around (`u64`).
-/
namespace Cctp

@[simp] theorem be_length (w n : Nat) : (be w n).length = w := by
  induction w generalizing n with
  | zero => rfl
  | succ w ih => simp [be, ih]

theorem fromBE_snoc (bs : Bytes) (b : UInt8) : fromBE (bs ++ [b]) = fromBE bs * 256 + b.toNat := by
  simp [fromBE, List.foldl_append]

theorem fromBE_be (w n : Nat) : fromBE (be w n) = n % 256 ^ w := by
  induction w generalizing n with
  | zero => exact (Nat.mod_one n).symm
  | succ w ih =>
    rw [be, fromBE_snoc, ih, Nat.pow_succ, Nat.mul_comm (256 ^ w), Nat.mod_mul,
      UInt8.toNat_ofNat_of_lt' (Nat.mod_lt n (by decide)), Nat.add_comm, Nat.mul_comm]

theorem be_inj (w a b : Nat) (ha : a < 256^w) (hb : b < 256^w) (h : be w a = be w b) : a = b := by
  have := congrArg fromBE h
  rwa [fromBE_be, fromBE_be, Nat.mod_eq_of_lt ha, Nat.mod_eq_of_lt hb] at this

theorem snoc_induction {α} {P : List α → Prop} (hnil : P [])
    (hsnoc : ∀ bs b, P bs → P (bs ++ [b])) (bs : List α) : P bs := by
  rw [← bs.reverse_reverse]
  induction bs.reverse with
  | nil => exact hnil
  | cons a l ih => exact List.reverse_cons ▸ hsnoc _ _ ih

theorem fromBE_lt (bs : Bytes) : fromBE bs < 256 ^ bs.length := by
  induction bs using snoc_induction with
  | hnil => exact Nat.one_pos
  | hsnoc bs b ih =>
    rw [fromBE_snoc, List.length_append, List.length_singleton, Nat.pow_succ]
    have := b.toNat_lt
    omega

theorem fromBE_lt_of_length {bs : Bytes} {w : Nat} (h : bs.length = w) : fromBE bs < 256 ^ w :=
  h ▸ fromBE_lt bs

theorem be_fromBE {w : Nat} {bs : Bytes} (h : bs.length = w) : be w (fromBE bs) = bs := by
  subst h
  induction bs using snoc_induction with
  | hnil => rfl
  | hsnoc bs b ih =>
    have hb : b.toNat < 256 := UInt8.toNat_lt b
    rw [List.length_append, List.length_singleton, be, fromBE_snoc, Nat.mul_comm, Nat.mul_add_div (by decide),
      Nat.mul_add_mod, Nat.div_eq_of_lt hb, Nat.mod_eq_of_lt hb, Nat.add_zero, ih, UInt8.ofNat_toNat]

theorem be_mod (w n : Nat) : be w (n % 256 ^ w) = be w n := by
  rw [← fromBE_be, be_fromBE (be_length w n)]

@[simp] theorem zeros_length (n : Nat) : (zeros n).length = n := List.length_replicate

theorem pad12_length (a : Bytes) : (pad12 a).length = 32 := by
  simp only [pad12, List.length_append, zeros_length]
  rw [Nat.add_assoc, Nat.add_sub_cancel' (List.length_take_le ..)]

theorem isPrefixOf_iff {p k : Bytes} : isPrefixOf p k = true ↔ p <+: k := by
  fun_induction isPrefixOf p k <;> simp [List.cons_prefix_cons, *]

theorem isPrefixOf_append (p r : Bytes) : isPrefixOf p (p ++ r) = true :=
  isPrefixOf_iff.mpr (List.prefix_append p r)

/-- item keys are prefix ‖ item ‖ "/". -/
theorem isPrefixOf_item (p a s : Bytes) : isPrefixOf p (p ++ a ++ s) = true := by
  rw [List.append_assoc]; exact isPrefixOf_append _ _

/-- dropping past a prefix of known length (`simp` finds the length and does the subtraction). -/
theorem drop_append_of_length_le {α} {a r : List α} {k : Nat} (h : a.length ≤ k) :
    (a ++ r).drop k = r.drop (k - a.length) := by
  rw [List.drop_append, List.drop_eq_nil_of_le h, List.nil_append]

/-- a list of length `k + n` is an `n`-long field followed by `k` more; with a literal length the
    unifier computes `k`, so a chain of these cuts a record into its fields without naming an offset. -/
theorem exists_append_of_length {α} (n : Nat) {k : Nat} {l : List α} (h : l.length = k + n) :
    ∃ a r, l = a ++ r ∧ a.length = n ∧ r.length = k :=
  ⟨l.take n, l.drop n, (List.take_append_drop n l).symm, List.length_take_of_le (h ▸ Nat.le_add_left n k),
    by rw [List.length_drop, h, Nat.add_sub_cancel]⟩

theorem u64_le (n : Nat) : u64 n ≤ n := Nat.mod_le _ _

theorem u64_eq {n : Nat} (h : n < 2 ^ 64) : u64 n = n := Nat.mod_eq_of_lt h

theorem u64_u64_add (a b : Nat) : u64 (u64 a + b) = u64 (a + b) := Nat.mod_add_mod a _ b

end Cctp
