import Cctp.Model.Result
import Cctp.Lemmas.Attr
/-
  Guard chains: a `do` block in `R` returns `.ok b` iff every step succeeds, and is free of panics iff every
  step is, given the results of the steps before it.  `simp only [handler, guards]` unfolds a handler into
  either condition, in source order.
-/
namespace Cctp

@[simp, guards] theorem req_ok (c : Prop) [Decidable c] (u : Unit) : req c = .ok u ↔ c := by
  unfold req; split <;> simp_all [pure, Except.pure, throw, throwThe, MonadExceptOf.throw]

@[simp, guards] theorem must_ok (c : Prop) [Decidable c] (u : Unit) : must c = .ok u ↔ c := by
  unfold must; split <;> simp_all [pure, Except.pure, throw, throwThe, MonadExceptOf.throw]

@[simp, guards] theorem getOr_ok {α} (o : Option α) (a : α) : getOr o = .ok a ↔ o = some a := by
  cases o <;> simp [getOr, pure, Except.pure, throw, throwThe, MonadExceptOf.throw]

@[simp, guards] theorem getMust_ok {α} (o : Option α) (a : α) : getMust o = .ok a ↔ o = some a := by
  cases o <;> simp [getMust, pure, Except.pure, throw, throwThe, MonadExceptOf.throw]

@[simp, guards] theorem bind_ok {α β} (x : R α) (f : α → R β) (b : β) :
    (x >>= f) = .ok b ↔ ∃ a, x = .ok a ∧ f a = .ok b := by
  cases x <;> simp [bind, Except.bind]

@[simp, guards] theorem pure_ok {α} (a b : α) : (pure a : R α) = .ok b ↔ a = b := by
  simp [pure, Except.pure]

@[simp, guards] theorem throw_ok {α} (e : Fail) (b : α) : (throw e : R α) = .ok b ↔ False := by
  simp [throw, throwThe, MonadExceptOf.throw]

@[simp, guards] theorem reqAll_ok {α} (o : Option α) (p : α → Prop) [DecidablePred p] (u : Unit) :
    reqAll o p = .ok u ↔ ∀ a, o = some a → p a := by
  unfold reqAll; cases o <;> simp

/-- a value read and then compared with `c` (the role checks: `x ← getMust (getRole ..); req (x = from)`):
    fused, so that the success condition names `c` instead of a bound variable equal to it. -/
@[guards high] theorem bind_req_eq_ok {α β} (x : R α) (c : α) [∀ a, Decidable (a = c)] (g : α → R β) (b : β) :
    (x >>= fun a => req (a = c) >>= fun _ => g a) = .ok b ↔ x = .ok c ∧ g c = .ok b := by
  simp only [bind_ok, req_ok, exists_const]
  exact ⟨fun ⟨_, hx, e, hg⟩ => e ▸ ⟨hx, hg⟩, fun ⟨hx, hg⟩ => ⟨c, hx, rfl, hg⟩⟩

@[guards] theorem exists_unit {p : Unit → Prop} : (∃ u, p u) ↔ p () := ⟨fun ⟨(), h⟩ => h, fun h => ⟨(), h⟩⟩

/-- a quantifier over `Unit` (what a guard binds) goes; not by `forall_const`, which looks for a `Nonempty` instance at
    every `∀ a, x = .ok a → …`. -/
@[guards] theorem forall_unit {p : Unit → Prop} : (∀ u, p u) ↔ p () := ⟨fun h => h (), fun h _ => h⟩

attribute [guards] Bool.not_eq_true not_or ne_eq Decidable.not_not not_false_eq_true implies_true and_true
  true_and

/-! ### guards as conditionals (for the codecs, whose every branch is characterised) -/

theorem req_bind {β} (c : Prop) [Decidable c] (f : Unit → R β) :
    (req c >>= f) = if c then f () else .error .err := by
  unfold req; split <;> rfl

theorem must_bind {β} (c : Prop) [Decidable c] (f : Unit → R β) :
    (must c >>= f) = if c then f () else .error .panic := by
  unfold must; split <;> rfl

theorem ite_ite_and {α} (a b : Prop) [Decidable a] [Decidable b] (x y : α) :
    (if a then (if b then x else y) else y) = if a ∧ b then x else y := by
  by_cases h : a <;> simp only [h, true_and, false_and, if_true, if_false]

theorem ite_ite_not_and {α} (a b : Prop) [Decidable a] [Decidable b] (x y : α) :
    (if a then y else if b then x else y) = if ¬a ∧ b then x else y := by
  by_cases h : a <;> simp only [h, not_true, not_false_eq_true, true_and, false_and, if_true, if_false]

theorem bind_panic {α β} (x : R α) (f : α → R β) :
    (x >>= f) = .error .panic ↔ x = .error .panic ∨ ∃ a, x = .ok a ∧ f a = .error .panic := by
  cases x <;> simp [bind, Except.bind]

theorem ite_panic {α} (c : Prop) [Decidable c] (x y : R α) :
    (if c then x else y) = .error .panic ↔ (c ∧ x = .error .panic) ∨ (¬ c ∧ y = .error .panic) := by
  by_cases h : c <;> simp [h]

theorem throw_bind {α β} (e : Fail) (f : α → R β) : (throw e >>= f) = .error e := rfl

/-! ### panic freedom
    The iffs are stated with `¬ _ = _`: `ne_eq` is in `guards`, so that is the form `simp only [.., guards]` meets. -/

/-- no-panic is compositional. -/
@[guards] theorem bind_ne_panic_iff {α β} (x : R α) (f : α → R β) :
    ¬ (x >>= f) = .error .panic ↔ ¬ x = .error .panic ∧ ∀ a, x = .ok a → ¬ f a = .error .panic := by
  cases x <;> simp [bind, Except.bind]

theorem bind_ne_panic {α β} (x : R α) (f : α → R β) (hx : x ≠ .error .panic)
    (hf : ∀ a, x = .ok a → f a ≠ .error .panic) : (x >>= f) ≠ .error .panic :=
  (bind_ne_panic_iff x f).mpr ⟨hx, hf⟩

@[simp, guards] theorem req_ne_panic (c : Prop) [Decidable c] : req c ≠ .error .panic := by
  unfold req; split <;> simp [pure, Except.pure, throw, throwThe, MonadExceptOf.throw]

@[simp, guards] theorem getOr_ne_panic {α} (o : Option α) : getOr o ≠ .error .panic := by
  cases o <;> simp [getOr, pure, Except.pure, throw, throwThe, MonadExceptOf.throw]

@[simp, guards] theorem pure_ne_panic {α} (a : α) : (pure a : R α) ≠ .error .panic := by
  simp [pure, Except.pure]

@[simp, guards] theorem reqAll_ne_panic {α} (o : Option α) (p : α → Prop) [DecidablePred p] :
    reqAll o p ≠ .error .panic := by
  unfold reqAll; cases o <;> simp

@[guards] theorem must_ne_panic_iff (c : Prop) [Decidable c] : ¬ must c = .error .panic ↔ c := by
  unfold must; split <;> simp_all [pure, Except.pure, throw, throwThe, MonadExceptOf.throw]

@[guards] theorem getMust_ne_panic_iff {α} (o : Option α) : ¬ getMust o = .error .panic ↔ o.isSome := by
  cases o <;> simp [getMust, pure, Except.pure, throw, throwThe, MonadExceptOf.throw]

section
variable {α β : Type} (c : Prop) [Decidable c] (o : Option α)

/-! a guard and its continuation in one step of `simp only [.., guards]` (`bind_ne_panic_iff` takes three: the bind,
    the guard, what the guard's success means); the three are proved from the rules tagged above them, which they
    then outrank -/

@[guards high] theorem req_bind_ne_panic (g : Unit → R β) :
    ¬ (req c >>= g) = .error .panic ↔ (c → ¬ g () = .error .panic) := by
  simp only [guards]

@[guards high] theorem getOr_bind_ne_panic (g : α → R β) :
    ¬ (getOr o >>= g) = .error .panic ↔ ∀ a, o = some a → ¬ g a = .error .panic := by
  simp only [guards]

@[guards high] theorem getMust_bind_ne_panic (g : α → R β) :
    ¬ (getMust o >>= g) = .error .panic ↔ o.isSome ∧ ∀ a, o = some a → ¬ g a = .error .panic := by
  simp only [guards]

@[guards] theorem ite_ne_panic_iff (x y : R β) :
    ¬ (if c then x else y) = .error .panic ↔ (c → ¬ x = .error .panic) ∧ (¬ c → ¬ y = .error .panic) := by
  rw [ite_panic, not_or, not_and, not_and]

end

theorem R.cases_ok {α} (x : R α) : (∃ a, x = .ok a) ∨ x = .error .err ∨ x = .error .panic := by
  cases x with
  | ok a => exact Or.inl ⟨a, rfl⟩
  | error e => cases e <;> simp

end Cctp
