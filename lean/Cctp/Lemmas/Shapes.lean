import Cctp.Lemmas.Wire
/-
  The complete observable shape of a successful send / deposit / replacement / mint, with the emitted bytes
  read back by the reference decoders, in the decoders' vocabulary: the literal CCTP values (version 0,
  domain 4, 32-byte fields) to which the model's named constants unfold.  A shape structure holds the conditions
  and wire facts and its theorem gives the handler's output beside it: C03–C09, C12 and C14 `obtain` both, substitute
  the output and select fields.
-/
namespace Cctp
open Gen Spec

variable {ext : Ext} {cfg : Cfg} {st : Store} {led : Ledger}

/-- destination caller as it appears on the wire: all-zero when none was requested. -/
def wireCaller (caller : Bytes) : Bytes := if caller.length = 0 then zeros 32 else caller

/-- a successful send by `f` (decoded address `addr`) of `body` to `rcp`, with `caller` as on the wire,
    emitting the bytes `bz`. -/
structure SendShape (ext : Ext) (st : Store) (f : Bytes) (dest : Nat) (rcp caller body addr bz : Bytes) : Prop where
  account : ext.accAddr f = some addr
  unpaused : sendPaused st = false
  fits : ∀ mx, getSize st = some mx → body.length ≤ mx
  rcp_len : rcp.length = 32
  rcp_ne : isZeros rcp = false
  caller_len : caller.length = 32
  wire : decodeMessage bz = some ⟨0, 4, u32 dest, u64 (curNonce st), pad12 addr, rcp, caller, body⟩

theorem sendCore_shape {f addr : Bytes} {dest : Nat} {rcp caller body : Bytes} {ev : Event} (ha : ext.accAddr f = some addr)
    (h : sendCore st dest rcp caller (pad12 addr) (curNonce st) body = .ok ev) :
    ∃ bz, SendShape ext st f dest rcp caller body addr bz ∧ ev = Event.messageSent bz := by
  obtain ⟨hp, hsz, ⟨_, hz⟩, _⟩ := (sendCore_ok ..).mp h
  obtain ⟨bz, rfl, hd, hr, hc⟩ := sendCore_wire h
  exact ⟨bz,
    { account := ha, unpaused := hp, fits := fun mx h => Nat.not_lt.mp (hsz mx h), rcp_len := hr, rcp_ne := hz,
      caller_len := hc, wire := hd }, rfl⟩

theorem SendShape.wire_exact {f : Bytes} {dest : Nat} {rcp caller body addr bz : Bytes}
    (s : SendShape ext st f dest rcp caller body addr bz) (hd : dest < 2 ^ 32)
    (hc : curNonce st < 2 ^ 64) : decodeMessage bz = some ⟨0, 4, dest, curNonce st, pad12 addr, rcp, caller, body⟩ := by
  rw [s.wire, u32, u64, Nat.mod_eq_of_lt hd, Nat.mod_eq_of_lt hc]

theorem sendMessage_shape {f : Bytes} {dest : Nat} {rcp body : Bytes} {o : Out}
    (h : sendMessage ext st led f dest rcp body = .ok o) :
    ∃ addr bz, SendShape ext st f dest rcp (zeros 32) body addr bz ∧ o = sendOut st led (Event.messageSent bz) := by
  obtain ⟨addr, ha, ev, hs, rfl⟩ := (sendMessage_ok ..).mp h
  obtain ⟨bz, s, rfl⟩ := sendCore_shape ha hs
  exact ⟨addr, bz, s, rfl⟩

theorem sendMessageWithCaller_shape {f : Bytes} {dest : Nat} {rcp body caller : Bytes}
    {o : Out} (h : sendMessageWithCaller ext st led f dest rcp body caller = .ok o) :
    caller ≠ zeros 32 ∧
    ∃ addr bz, SendShape ext st f dest rcp caller body addr bz ∧ o = sendOut st led (Event.messageSent bz) := by
  obtain ⟨addr, ha, ⟨_, hz⟩, ev, hs, rfl⟩ := (sendMessageWithCaller_ok ..).mp h
  obtain ⟨bz, s, rfl⟩ := sendCore_shape ha hs
  exact ⟨hz, addr, bz, s, rfl⟩

/-- the hand-off of a deposit: a send in the module's name, with or without destination caller. -/
theorem innerSend_shape {dest : Nat} {rcp body caller : Bytes} {o : Out}
    (h : innerSend ext cfg st led dest rcp body caller = .ok o) :
    (caller.length = 0 ∨ (caller.length = 32 ∧ caller ≠ zeros 32)) ∧
    ∃ maddr bz, SendShape ext st cfg.moduleStr dest rcp (wireCaller caller) body maddr bz ∧
      o = sendOut st led (Event.messageSent bz) := by
  unfold innerSend at h
  by_cases hc : caller.length = 0
  · rw [if_pos hc] at h
    rw [wireCaller, if_pos hc]
    exact ⟨.inl hc, sendMessage_shape h⟩
  · rw [if_neg hc] at h
    rw [wireCaller, if_neg hc]
    obtain ⟨hz, maddr, bz, s, ho⟩ := sendMessageWithCaller_shape h
    exact ⟨.inr ⟨s.caller_len, hz⟩, maddr, bz, s, ho⟩

/-- a successful deposit of `a` by `addr`, handed to the messenger `msgr` in the
    module's name (`maddr`), emitting the message bytes `bz` around the burn body `body`. -/
structure DepositShape (ext : Ext) (cfg : Cfg) (st : Store) (led : Ledger) (f : Bytes) (amount : Option Int) (dest : Nat)
    (rcp tok caller addr maddr : Bytes) (a : Int) (msgr : Nat × Bytes) (bz body : Bytes) : Prop where
  account : ext.accAddr f = some addr
  amount_eq : amount = some a
  pos : 0 < a
  lt : a < 2 ^ 256
  rcp_len : rcp.length = 32
  rcp_ne : rcp ≠ zeros 32
  messenger : getMessenger st dest = some msgr
  denom : ext.equalFold led.mintingDenom tok = true
  valid : ext.validDenom tok = true
  unpaused : burnPaused st = false
  limit : ∀ l, getLimit st (ext.toLower tok) = some l → a ≤ l
  caller_ok : caller.length = 0 ∨ (caller.length = 32 ∧ caller ≠ zeros 32)
  transfer : (led.transfer addr cfg.moduleAddr tok a).1 = true
  burn : ((led.transfer addr cfg.moduleAddr tok a).2.burn true cfg.moduleAddr tok a).1 = true
  send : SendShape ext st cfg.moduleStr dest msgr.2 (wireCaller caller) body maddr bz
  burn_wire : decodeBurn body = some ⟨0, ext.keccak256 (ext.toLower tok), rcp, a.toNat, pad12 addr⟩
  body_len : body.length = 132

theorem depositForBurn_shape {f : Bytes} {amount : Option Int} {dest : Nat}
    {rcp tok caller : Bytes} {o : Out} (h : depositForBurn ext cfg st led f amount dest rcp tok caller = .ok o) :
    ∃ addr maddr a msgr bz body, DepositShape ext cfg st led f amount dest rcp tok caller addr maddr a msgr bz body ∧
      o = { writes := [(reserveNonce st).2],
            events := [Event.messageSent bz,
              Event.depositForBurn (curNonce st) (toHex (ext.keccak256 (ext.toLower tok))) a f rcp dest msgr.2 caller],
            deps := [Dep.transfer addr ModuleName tok a true, Dep.burn cfg.moduleStr tok a true],
            ledger := ((led.transfer addr cfg.moduleAddr tok a).2.burn true cfg.moduleAddr tok a).2,
            resp := .nonce (curNonce st) } := by
  obtain ⟨addr, hacc, a, rfl, hpos, hrz, msgr, hmsgr, hden, hbp, hlim, hval, htr, hbu, body, hbody, inner, hin, rfl⟩ :=
    (depositForBurn_ok ..).mp h
  obtain ⟨hrl, _, ha, hlt, hblen, hdb⟩ := burn_wire hbody
  cases ha
  obtain ⟨hc, maddr, bz, s, rfl⟩ := innerSend_shape hin
  obtain ⟨n, rfl⟩ := Int.eq_ofNat_of_zero_le (Int.le_of_lt hpos)
  exact ⟨addr, maddr, n, msgr, bz, body,
    { account := hacc, amount_eq := rfl, pos := hpos, lt := Int.ofNat_lt.mpr hlt, rcp_len := hrl, rcp_ne := hrz, messenger := hmsgr,
      denom := hden, valid := hval, unpaused := hbp, limit := fun l hl => Int.not_lt.mp (hlim l hl), caller_ok := hc,
      transfer := htr, burn := hbu, send := s, burn_wire := hdb, body_len := hblen }, rfl⟩

/-- a successful replacement of the message `om` sent by `addr`, emitting the bytes `bz`. -/
structure ReplaceShape (ext : Ext) (st : Store) (f orig att newBody newCaller : Bytes) (t : Nat) (om : Message)
    (addr bz : Bytes) : Prop where
  unpaused : sendPaused st = false
  threshold : getThreshold st = some t
  verified : verify ext orig att (attestersOf st) t = .ok ()
  original : decodeMessage orig = some om
  account : ext.accAddr f = some addr
  sender : om.sender = pad12 addr
  source : om.sourceDomain = 4
  wire : decodeMessage bz = some ⟨0, 4, om.destDomain, om.nonce, om.sender, om.recipient, newCaller, newBody⟩

theorem replaceMessage_shape {f orig att newBody newCaller : Bytes} {o : Out}
    (h : replaceMessage ext st led f orig att newBody newCaller = .ok o) :
    ∃ t om addr bz, ReplaceShape ext st f orig att newBody newCaller t om addr bz ∧
      o = { out0 led with events := [Event.messageSent bz] } := by
  obtain ⟨hp, t, ht, hv, m, hpm, addr, ha, hs, hsd, ev, hc, rfl⟩ := (replaceMessage_ok ..).mp h
  obtain ⟨bz, rfl, hd, _⟩ := sendCore_wire hc
  obtain ⟨hdm, wf⟩ := parse_wf hpm
  rw [Nat.mod_eq_of_lt wf.dest, Nat.mod_eq_of_lt wf.nonce] at hd
  exact ⟨t, m, addr, bz,
    { unpaused := hp, threshold := ht, verified := hv, original := hdm, account := ha, sender := hs.symm, source := hsd,
      wire := hd }, rfl⟩

/-- a successful replacement of a deposit: the original message `om` with burn body `ob`, deposited by `addr`
    and sent by the module (`maddr`); the new bytes `bz` around the body `nbody`. -/
structure ReplaceDepositShape (ext : Ext) (cfg : Cfg) (st : Store) (f orig att newCaller newRcp : Bytes)
    (t : Nat) (om : Message) (ob : Burn) (addr maddr bz nbody : Bytes) : Prop where
  unpaused : burnPaused st = false
  replace : ReplaceShape ext st cfg.moduleStr orig att nbody newCaller t om maddr bz
  burn_body : decodeBurn om.body = some ob
  account : ext.accAddr f = some addr
  depositor : ob.messageSender = pad12 addr
  rcp_len : newRcp.length = 32
  rcp_ne : newRcp ≠ zeros 32
  burn_wire : decodeBurn nbody = some ⟨ob.version, ob.burnToken, newRcp, ob.amount, ob.messageSender⟩

theorem replaceDepositForBurn_shape {f orig att newCaller newRcp : Bytes} {o : Out}
    (h : replaceDepositForBurn ext cfg st led f orig att newCaller newRcp = .ok o) :
    ∃ t om ob addr maddr bz nbody, ReplaceDepositShape ext cfg st f orig att newCaller newRcp t om ob addr maddr bz nbody ∧
      o = { out0 led with events := [Event.messageSent bz,
        Event.depositForBurn om.nonce (toHex ob.burnToken) (Int.ofNat ob.amount) f newRcp om.destDomain om.recipient
          newCaller] } := by
  obtain ⟨hbp, m, hpm, b, hpb, addr, ha, hs, hz, nb, hnb, inner, hin, rfl⟩ := (replaceDepositForBurn_ok ..).mp h
  obtain ⟨t, om, maddr, bz, r, rfl⟩ := replaceMessage_shape hin
  obtain ⟨hdm, _⟩ := parse_wf hpm
  cases hdm.symm.trans r.original
  obtain ⟨ob, rfl, hdb, wf⟩ := burn_parse_wf hpb
  obtain ⟨hrl, _, ha', _, _, hdnb⟩ := burn_wire hnb
  cases ha'
  -- the re-encoded body reads back as the parsed one with the new recipient: a parsed version is below 2^32 already,
  -- and the amount is the magnitude of a natural number
  have hw : decodeBurn nb = some ⟨ob.version, ob.burnToken, newRcp, ob.amount, ob.messageSender⟩ := by
    rw [hdnb]
    simp only [toModel, Nat.mod_eq_of_lt wf.version]
    rfl
  exact ⟨t, m, ob, addr, maddr, bz, nb,
    { unpaused := hbp, replace := r, burn_body := hdb, account := ha, depositor := hs.symm, rcp_len := hrl, rcp_ne := hz,
      burn_wire := hw }, rfl⟩

/-- the mint a module-addressed message causes: the burn body `b`, the linked pair, the registered messenger,
    the bech32 recipient string `rcp`. -/
structure MintShape (ext : Ext) (st : Store) (led : Ledger) (m : Message) (b : Burn)
    (pair : Nat × Bytes × Bytes) (msgr : Nat × Bytes) (rcp : Bytes) : Prop where
  unpaused : burnPaused st = false
  body : decodeBurn m.body = some b
  wf : WFBurn b
  version : b.version = 0
  linked : getPair ext st m.sourceDomain b.burnToken = some pair
  messenger : getMessenger st m.sourceDomain = some msgr
  sender : m.sender = msgr.2
  recipient : ext.bech32Enc (b.mintRecipient.drop 12) = some rcp
  minted : (led.mint true (ext.accAddr rcp) (ext.toLower pair.2.2) (Int.ofNat b.amount)).1 = true

/-- what `mintBranch` returns. -/
abbrev mintOut (ext : Ext) (cfg : Cfg) (led : Ledger) (b : Burn) (pair : Nat × Bytes × Bytes) (rcp : Bytes) : MintOut :=
  { events := [Event.mintAndWithdraw b.mintRecipient (Int.ofNat b.amount) (ext.toLower pair.2.2)],
    deps := [Dep.mint cfg.moduleStr rcp (ext.toLower pair.2.2) (Int.ofNat b.amount) true],
    ledger := (led.mint true (ext.accAddr rcp) (ext.toLower pair.2.2) (Int.ofNat b.amount)).2 }

theorem mintBranch_shape {m : Message} {mo : MintOut} (h : mintBranch ext cfg st led m = .ok mo) :
    ∃ b pair msgr rcp, MintShape ext st led m b pair msgr rcp ∧ mo = mintOut ext cfg led b pair rcp := by
  obtain ⟨h1, b, hb, hv, pair, hp, msgr, hm, hs, rcp, hr, hmint, rfl⟩ := (mintBranch_ok ..).mp h
  obtain ⟨sb, rfl, hsb, wf⟩ := burn_parse_wf hb
  exact ⟨sb, pair, msgr, rcp,
    { unpaused := h1, body := hsb, wf := wf, version := hv, linked := hp, messenger := hm, sender := hs, recipient := hr,
      minted := hmint }, rfl⟩

theorem receiveMessage_shape {f msg att : Bytes} {o : Out}
    (h : receiveMessage ext cfg st led f msg att = .ok o) :
    ∃ m mo, decodeMessage msg = some m ∧ mintOrSkip ext cfg st led m = .ok mo ∧
      o = receiveOut f m mo := by
  obtain ⟨m, mo, hp, hmo, rfl⟩ := receiveMessage_out h
  exact ⟨m, mo, (parse_wf hp).1, hmo, rfl⟩

theorem mintOrSkip_module {m : Message}
    (h : m.recipient = cfg.modulePadded) : mintOrSkip ext cfg st led m = mintBranch ext cfg st led m := if_pos h

theorem mintOrSkip_other {m : Message}
    (h : m.recipient ≠ cfg.modulePadded) : mintOrSkip ext cfg st led m = .ok ⟨[], [], led⟩ := if_neg h

theorem mintOrSkip_cases {m : Message} {mo : MintOut}
    (h : mintOrSkip ext cfg st led m = .ok mo) :
    (m.recipient = cfg.modulePadded ∧
      ∃ b pair msgr rcp, MintShape ext st led m b pair msgr rcp ∧ mo = mintOut ext cfg led b pair rcp) ∨
    (m.recipient ≠ cfg.modulePadded ∧ mo = ⟨[], [], led⟩) := by
  by_cases hrec : m.recipient = cfg.modulePadded
  · exact .inl ⟨hrec, mintBranch_shape ((mintOrSkip_module hrec).symm.trans h)⟩
  · exact .inr ⟨hrec, (Except.ok.inj ((mintOrSkip_other hrec).symm.trans h)).symm⟩

theorem receive_module_shape {f msg att : Bytes} {o : Out} {m : Message}
    (h : receiveMessage ext cfg st led f msg att = .ok o) (hd : decodeMessage msg = some m)
    (hrec : m.recipient = cfg.modulePadded) :
    ∃ b pair msgr rcp, MintShape ext st led m b pair msgr rcp ∧ o = receiveOut f m (mintOut ext cfg led b pair rcp) := by
  obtain ⟨m', mo, hd', hmo, rfl⟩ := receiveMessage_shape h
  cases hd.symm.trans hd'
  obtain ⟨b, pair, msgr, rcp, s, rfl⟩ := mintBranch_shape ((mintOrSkip_module hrec).symm.trans hmo)
  exact ⟨b, pair, msgr, rcp, s, rfl⟩

end Cctp
