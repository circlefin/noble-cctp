import Cctp.Lemmas.LastWrite
import Cctp.Lemmas.Typed
import Cctp.Model.Genesis
/-
  Genesis init and export.  InitGenesis is a table of blocks of writes, each to keys of one class (`initBlocks`), so
  a key sees only the block of its class (`initWrites_filter`, `get_init_of_filter`).  The five keyed collections of
  the store (attesters, burn limits, token pairs, used nonces, remote token messengers) are one notion, `Coll`.
-/
namespace Cctp
open Gen Genesis

theorem noDup_iff (ks : List Bytes) : noDup ks = true ↔ ks.Nodup := by
  induction ks with
  | nil => simp [noDup]
  | cons k rest ih => simp [noDup, ih]

theorem mem_scanMap_iff {α} (st : Store) (hwf : st.WF) (pfx : Bytes) (f : Val → Option α) (x : α) :
    x ∈ scanMap st pfx f ↔ ∃ k v, st.get k = some v ∧ isPrefixOf pfx k = true ∧ f v = some x := by
  simp only [scanMap, List.mem_filterMap, Store.mem_scan]
  constructor
  · rintro ⟨⟨k, v⟩, ⟨hm, hp⟩, hf⟩; exact ⟨k, v, Store.get_of_mem hwf hm, hp, hf⟩
  · rintro ⟨k, v, hg, hp, hf⟩; exact ⟨(k, v), ⟨Store.mem_of_get hg, hp⟩, hf⟩

/-- A block of well-typed writes, all to keys of one class. -/
structure Block (ext : Ext) where
  cls : Nat
  ws : List Store.Write
  cls_eq : ∀ w ∈ ws, Key.cls w.1 = cls
  ok : ∀ w ∈ ws, ∀ v, w.2 = some v → ValOK ext w.1 v

def Block.one {ext : Ext} (c : Nat) (k : Bytes) (v : Val) (h : Key.cls k = c) (hv : ValOK ext k v) : Block ext :=
  ⟨c, [(k, some v)], fun w hw => by cases List.mem_singleton.mp hw; exact h,
    fun w hw v' e => by cases List.mem_singleton.mp hw; cases e; exact hv⟩

/-- the block that writes one entry per element of a genesis list. -/
def Block.ofList {ext : Ext} {α} (l : List α) (c : Nat) (key : α → Bytes) (val : α → Val) (h : ∀ x, Key.cls (key x) = c)
    (hv : ∀ x, ValOK ext (key x) (val x)) : Block ext :=
  ⟨c, l.map fun x => (key x, some (val x)), fun w hw => by obtain ⟨x, _, rfl⟩ := List.mem_map.mp hw; exact h x,
    fun w hw v e => by obtain ⟨x, _, rfl⟩ := List.mem_map.mp hw; cases e; exact hv x⟩

/-- a filter on key classes keeps or drops each block as a whole. -/
theorem filter_blocks {ext : Ext} (p : Nat → Bool) (bs : List (Block ext)) :
    (bs.flatMap (·.ws)).filter (fun w => p (Key.cls w.1)) = (bs.filter fun b => p b.cls).flatMap (·.ws) := by
  induction bs with
  | nil => rfl
  | cons b bs ih =>
    rw [List.flatMap_cons, List.filter_append, ih, List.filter_cons]
    -- every write of `b` has the class of `b`, so the filter decides for the block as a whole
    have hb : ∀ w ∈ b.ws, p (Key.cls w.1) = p b.cls := fun w hw => congrArg p (b.cls_eq w hw)
    cases hp : p b.cls with
    | true => rw [if_pos rfl, List.flatMap_cons, List.filter_eq_self.mpr fun w hw => (hb w hw).trans hp]
    | false =>
      rw [if_neg Bool.false_ne_true, List.filter_eq_nil_iff.mpr fun w hw => ne_true_of_eq_false ((hb w hw).trans hp)]
      rfl

/-- the writes of InitGenesis, in order, as blocks (x/cctp/genesis.go order: roles, attesters, burn limits, the five
    scalars, token pairs, used nonces, remote token messengers), each with the class of its keys and the alternative of
    `ValOK` that makes it well typed. -/
def initBlocks (ext : Ext) (g : Genesis) : List (Block ext) :=
  [ .one 0 Key.owner (.role g.owner) Key.cls_owner (.inl rfl),
    .one 2 Key.attesterManager (.role g.attesterManager) Key.cls_attesterManager (.inr (.inr (.inl rfl))),
    .one 3 Key.pauser (.role g.pauser) Key.cls_pauser (.inr (.inr (.inr (.inl rfl)))),
    .one 4 Key.tokenController (.role g.tokenController) Key.cls_tokenController (.inr (.inr (.inr (.inr rfl)))),
    .ofList g.attesters 10 Key.attester .attester Key.cls_attester (fun _ => rfl),
    .ofList g.limits 11 (fun l => Key.limit l.1) (fun l => .limit l.1 l.2) (fun _ => Key.cls_limit _) (fun _ => rfl),
    .one 5 Key.burnPaused (.flag (g.burnPaused.getD true)) Key.cls_burnPaused (.inl rfl),
    .one 6 Key.sendPaused (.flag (g.sendPaused.getD true)) Key.cls_sendPaused (.inr rfl),
    .one 7 Key.maxBody (.size (g.maxBody.getD 8000)) Key.cls_maxBody rfl,
    .one 8 Key.nextNonce (nonceVal g.nextNonce) Key.cls_nextNonce (by cases g.nextNonce <;> exact .inl rfl),
    .one 9 Key.threshold (.threshold (g.threshold.getD 1)) Key.cls_threshold rfl,
    .ofList g.pairs 13 (fun p => Key.tokenPair ext p.1 p.2.1) (fun p => .pair p.1 p.2.1 p.2.2) (fun _ => Key.cls_tokenPair ..)
      (fun _ => rfl),
    .ofList g.used 12 (fun u => Key.usedNonce u.1 u.2) (fun u => .nonce u.1 u.2) (fun _ => Key.cls_usedNonce ..) (fun _ => .inr rfl),
    .ofList g.messengers 14 (fun m => Key.messenger m.1) (fun m => .messenger m.1 m.2) (fun _ => Key.cls_messenger _)
      (fun _ => rfl) ]

theorem initWrites_eq_blocks (ext : Ext) (g : Genesis) : initWrites ext g = (initBlocks ext g).flatMap (·.ws) := by
  -- `flatMap` ends in `++ []`; with that appended, the left side re-associated is the right side evaluated
  refine (List.append_nil _).symm.trans ?_
  simp only [initWrites, List.append_assoc]
  rfl

/-- what a filter on key classes leaves of InitGenesis's writes: the blocks of the classes it accepts (for a concrete
    filter the right-hand side evaluates). -/
theorem initWrites_filter (ext : Ext) (g : Genesis) (p : Nat → Bool) :
    (initWrites ext g).filter (fun w => p (Key.cls w.1)) = ((initBlocks ext g).filter fun b => p b.cls).flatMap (·.ws) := by
  rw [initWrites_eq_blocks, filter_blocks]

theorem init_ok {ext : Ext} {g : Genesis} {st : Store} :
    Genesis.init ext [] g = .ok st ↔ g.threshold ≠ some 0 ∧ Store.applyAll [] (initWrites ext g) = st := by
  simp only [Genesis.init, bind_ok, must_ok, pure_ok, exists_const]

theorem get_init {ext : Ext} {g : Genesis} {st : Store} (h : Genesis.init ext [] g = .ok st) (k : Bytes) :
    st.get k = (lastWrite (initWrites ext g) k).join := by
  rw [← (init_ok.mp h).2, Store.get_applyAll _ _ _ Store.wf_nil]
  cases lastWrite (initWrites ext g) k <;> rfl

/-- The store after InitGenesis at the keys of the classes `p` selects, when the writes to those keys (`initWrites_filter`)
    are the entries `l`, one per key: a key sees only the writes of its class, and among writes with distinct keys each
    is the last to its key. -/
theorem get_init_of_filter {ext : Ext} {g : Genesis} {st : Store} (hi : Genesis.init ext [] g = .ok st) (p : Nat → Bool)
    {l : List (Bytes × Val)} (hl : (initWrites ext g).filter (fun w => p (Key.cls w.1)) = l.map fun e => (e.1, some e.2))
    (hnd : (l.map Prod.fst).Nodup) {k : Bytes} (hk : p (Key.cls k) = true) (v : Val) : st.get k = some v ↔ (k, v) ∈ l := by
  have : (k, some v) ∈ (l.map fun e => (e.1, some e.2)) ↔ (k, v) ∈ l :=
    ⟨fun h => by obtain ⟨e, he, h⟩ := List.mem_map.mp h; cases h; exact he, fun h => List.mem_map.mpr ⟨_, h, rfl⟩⟩
  rw [get_init hi, ← lastWrite_filter (fun w => p (Key.cls w.1)) (fun w _ e => e ▸ hk), hl, ← this,
    ← lastWrite_eq_some_iff (by rwa [List.map_map]), Option.join_eq_some_iff]

/-- what `ExportGenesis` returns on a store whose four roles are `o a p t`. -/
def exported (st : Store) (o a p t : Bytes) : Genesis where
  owner := o
  attesterManager := a
  pauser := p
  tokenController := t
  attesters := attestersOf st
  limits := scanMap st PerMessageBurnLimitKeyPrefix limOf
  burnPaused := some ((getFlag st Key.burnPaused).getD false)
  sendPaused := some ((getFlag st Key.sendPaused).getD false)
  maxBody := getSize st
  nextNonce := getNextNonce st
  threshold := getThreshold st
  pairs := scanMap st TokenPairKeyPrefix pairOf
  used := scanMap st UsedNonceKeyPrefix usedOf
  messengers := scanMap st RemoteTokenMessengerKeyPrefix msgrOf

theorem exportG_ok {st : Store} {g : Genesis} : exportG st = .ok g ↔
    ∃ o, getRole st Key.owner = some o ∧ ∃ a, getRole st Key.attesterManager = some a ∧
    ∃ p, getRole st Key.pauser = some p ∧ ∃ t, getRole st Key.tokenController = some t ∧ exported st o a p t = g := by
  simp only [exportG, bind_ok, getMust_ok, pure_ok]
  rfl

/-- A keyed collection with elements `α`: where an element is stored (`key`, under `pfx`, in key class `cls`), as
    what (`val`), how a scan reads it back (`of`), and which genesis field holds it (`list`).  The laws with a default
    hold by unfolding or, for `init_list`, by evaluating the filter on `initBlocks`. -/
structure Coll (ext : Ext) (α : Type) where
  pfx : Bytes
  cls : Nat
  key : α → Bytes
  val : α → Val
  of : Val → Option α
  list : Genesis → List α
  pfx_key : ∀ x, isPrefixOf pfx (key x) = true := by exact fun _ => isPrefixOf_item ..
  key_cls : ∀ x, Key.cls (key x) = cls
  of_val : ∀ x, of (val x) = some x := by exact fun _ => rfl
  val_of : ∀ v x, of v = some x → v = val x
  /-- under the prefix, a well-typed entry sits at the key of its own value. -/
  typed : ∀ k x, isPrefixOf pfx k = true → ValOK ext k (val x) → k = key x := by exact fun _ _ _ h => h
  /-- InitGenesis writes, in class `cls`, exactly the entries of `list`. -/
  init_list : ∀ g, (initWrites ext g).filter (fun w => Key.cls w.1 = cls) = (list g).map fun x => (key x, some (val x)) := by
    -- the filter evaluated over the table leaves the one block of the class, followed by `++ []`
    exact fun g => (initWrites_filter ext g (· = _)).trans (List.append_nil _)
  /-- ExportGenesis fills `list` with the prefix scan. -/
  export_list : ∀ st o a p t, list (exported st o a p t) = scanMap st pfx of := by exact fun _ _ _ _ _ => rfl

namespace Coll
variable {ext : Ext} {α : Type} (c : Coll ext α)

theorem val_inj {x y : α} (h : c.val x = c.val y) : x = y :=
  Option.some.inj ((c.of_val x).symm.trans (h ▸ c.of_val y))

theorem key_of_get {st : Store} (hg : Good ext st) {k : Bytes} {v : Val} {x : α} (hk : st.get k = some v)
    (hp : isPrefixOf c.pfx k = true) (hv : c.of v = some x) : c.key x = k := by
  have := hg.typed k v hk
  rw [c.val_of v x hv] at this
  exact (c.typed k x hp this).symm

theorem mem_scan {st : Store} (hg : Good ext st) (x : α) :
    x ∈ scanMap st c.pfx c.of ↔ st.get (c.key x) = some (c.val x) := by
  rw [mem_scanMap_iff st hg.wf]
  constructor
  · rintro ⟨k, v, hk, hp, hv⟩
    rw [c.key_of_get hg hk hp hv, ← c.val_of v x hv]
    exact hk
  · exact fun h => ⟨_, _, h, c.pfx_key x, c.of_val x⟩

/-- the keys rebuilt from a scan are the store keys the elements were found under, and those are distinct. -/
theorem nodup_scan {st : Store} (hg : Good ext st) : ((scanMap st c.pfx c.of).map c.key).Nodup := by
  refine List.pairwise_map.mpr (List.pairwise_filterMap.mpr (List.Pairwise.imp_of_mem ?_
    ((List.pairwise_map.mp (Store.keys_nodup hg.wf)).sublist List.filter_sublist)))
  intro a b ha hb hne x hx y hy
  have key {kv : Bytes × Val} (h : kv ∈ st.scan c.pfx) {x : α} (hx : c.of kv.2 = some x) : c.key x = kv.1 := by
    obtain ⟨hm, hp⟩ := Store.mem_scan.mp h
    exact c.key_of_get hg (Store.get_of_mem hg.wf hm) hp hx
  rw [key ha hx, key hb hy]
  exact hne

theorem get_init {g : Genesis} {st : Store} (hi : Genesis.init ext [] g = .ok st) (hnd : ((c.list g).map c.key).Nodup) (x : α) :
    st.get (c.key x) = some (c.val x) ↔ x ∈ c.list g := by
  -- the writes of class `c.cls` are the entries `(key y, val y)` of the list, one per key
  have hl : (initWrites ext g).filter (fun w => Key.cls w.1 = c.cls) =
      ((c.list g).map fun y => (c.key y, c.val y)).map fun e => (e.1, some e.2) := by
    rw [c.init_list, List.map_map]; rfl
  have hk : (((c.list g).map fun y => (c.key y, c.val y)).map Prod.fst).Nodup := by rwa [List.map_map]
  rw [get_init_of_filter hi (· = c.cls) hl hk (decide_eq_true (c.key_cls x)), List.mem_map]
  exact ⟨fun ⟨y, hy, e⟩ => c.val_inj (Prod.mk.inj e).2 ▸ hy, fun h => ⟨x, h, rfl⟩⟩

def attesters (ext : Ext) : Coll ext Bytes where
  pfx := AttesterKeyPrefix
  cls := 10
  key := Key.attester
  val := .attester
  of := fun | .attester a => some a | _ => none
  list := Genesis.attesters
  key_cls _ := Key.cls_attester _
  val_of v x h := by
    split at h <;> cases h
    rfl

def limits (ext : Ext) : Coll ext (Bytes × Int) where
  pfx := PerMessageBurnLimitKeyPrefix
  cls := 11
  key l := Key.limit l.1
  val l := .limit l.1 l.2
  of := limOf
  list := Genesis.limits
  key_cls _ := Key.cls_limit _
  val_of v x h := by
    unfold limOf at h
    split at h <;> cases h
    rfl

def pairs (ext : Ext) : Coll ext (Nat × Bytes × Bytes) where
  pfx := TokenPairKeyPrefix
  cls := 13
  key p := Key.tokenPair ext p.1 p.2.1
  val p := .pair p.1 p.2.1 p.2.2
  of := pairOf
  list := Genesis.pairs
  key_cls _ := Key.cls_tokenPair ..
  val_of v x h := by
    unfold pairOf at h
    split at h <;> cases h
    rfl

def used (ext : Ext) : Coll ext (Nat × Nat) where
  pfx := UsedNonceKeyPrefix
  cls := 12
  key u := Key.usedNonce u.1 u.2
  val u := .nonce u.1 u.2
  of := usedOf
  list := Genesis.used
  key_cls _ := Key.cls_usedNonce ..
  pfx_key _ := by rw [Key.usedNonce, List.append_assoc]; exact isPrefixOf_item ..
  val_of v x h := by
    unfold usedOf at h
    split at h <;> cases h
    rfl
  -- the next-nonce record is a `nonce` too, but it lives outside the used-nonce prefix
  typed k _ hp h := h.resolve_left fun e => absurd (Key.cls_of_prefix_usedNonce k hp) (by rw [e]; decide)

def messengers (ext : Ext) : Coll ext (Nat × Bytes) where
  pfx := RemoteTokenMessengerKeyPrefix
  cls := 14
  key m := Key.messenger m.1
  val m := .messenger m.1 m.2
  of := msgrOf
  list := Genesis.messengers
  key_cls _ := Key.cls_messenger _
  val_of v x h := by
    unfold msgrOf at h
    split at h <;> cases h
    rfl

end Coll

end Cctp
