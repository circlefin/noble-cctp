import Cctp.Props.C16
import Cctp.Lemmas.Handlers
/-
  What is on the wire: the bytes a handler serialises, read back with the literal-offset reference
  decoder of Spec/Layout.lean (not with the module's own codec).
-/
namespace Cctp
open Spec

theorem parse_wf {bz : Bytes} {m : Message} (h : Message.parse bz = .ok m) : decodeMessage bz = some m ∧ WFMessage m := by
  rw [C16.parse_eq_spec] at h
  cases hd : decodeMessage bz with
  | none => rw [hd] at h; cases h
  | some m' => rw [hd] at h; cases h; exact ⟨rfl, C16.decode_wf hd⟩

theorem burn_parse_wf {bz : Bytes} {b : BurnMessage} (h : BurnMessage.parse bz = .ok b) :
    ∃ ob, b = toModel ob ∧ decodeBurn bz = some ob ∧ WFBurn ob := by
  rw [C16.burn_parse_eq_spec] at h
  cases hd : decodeBurn bz with
  | none => rw [hd] at h; cases h
  | some ob => rw [hd] at h; cases h; exact ⟨ob, rfl, rfl, C16.burn_decode_wf hd⟩

theorem parse_iff_decode (bz : Bytes) (m : Message) : Message.parse bz = .ok m ↔ decodeMessage bz = some m :=
  ⟨fun h => (parse_wf h).1, fun h => by rw [C16.parse_eq_spec, h]⟩

theorem burn_parse_iff_decode (bz : Bytes) (b : BurnMessage) :
    BurnMessage.parse bz = .ok b ↔ ∃ sb, decodeBurn bz = some sb ∧ b = toModel sb :=
  ⟨fun h => let ⟨sb, e, hd, _⟩ := burn_parse_wf h; ⟨sb, hd, e⟩,
   fun ⟨sb, hd, e⟩ => by rw [C16.burn_parse_eq_spec, hd, e]⟩

/-- the MessageSent payload of `sendCore`, decoded by the reference decoder (integers reduced to their field width). -/
theorem sendCore_wire {st : Store} {dest : Nat} {rcp caller sender : Bytes} {nonce : Nat} {body : Bytes} {ev : Event}
    (h : sendCore st dest rcp caller sender nonce body = .ok ev) :
    ∃ bz, ev = Event.messageSent bz ∧
      decodeMessage bz = some ⟨0, 4, dest % 2 ^ 32, nonce % 2 ^ 64, sender, rcp, caller, body⟩ ∧
      rcp.length = 32 ∧ caller.length = 32 := by
  obtain ⟨_, _, _, bz, hb, rfl⟩ := (sendCore_ok ..).mp h
  rw [C16.bytes_eq] at hb
  split at hb
  · next hl => cases hb; exact ⟨_, rfl, C16.encode_decode_norm _ hl.1 hl.2.1 hl.2.2, hl.2⟩
  · cases hb

/-- a successful `BurnMessage.Bytes`: a 32-byte mint recipient, an amount of at most 256 bits, and 132 bytes that the
    reference decoder reads back (the amount by its magnitude, the version reduced to its field width). -/
theorem burn_wire {b : BurnMessage} {bz : Bytes} (h : b.bytes = .ok bz) :
    b.mintRecipient.length = 32 ∧ ∃ a, b.amount = some a ∧ a.natAbs < 2 ^ 256 ∧ bz.length = 132 ∧
      decodeBurn bz = some ⟨b.version % 2 ^ 32, b.burnToken, b.mintRecipient, a.natAbs, b.messageSender⟩ := by
  rw [C16.burn_bytes_eq] at h
  split at h
  · next hl =>
    split at h
    · next a ha =>
      split at h
      · next hlt =>
        cases h
        refine ⟨hl.2.1, a, ha, hlt, C16.burn_encode_length _ hl.1 hl.2.1 hl.2.2, ?_⟩
        rw [C16.burn_encode_decode_norm _ hl.1 hl.2.1 hl.2.2]
        simp only [Burn.norm, ofModel, ha, Option.getD_some, Nat.mod_eq_of_lt hlt]
      · cases h
    · cases h
  · cases h

end Cctp
