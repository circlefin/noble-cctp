import Cctp.Lemmas.Handlers
import Cctp.Lemmas.Attest
/-
  Panic analysis, the shared part: `RolesSet` (what the panicking role getters need), and that the codecs, the
  attestation verifier and `sendCore` cannot panic.  The handlers and queries are in Props/C20.lean.
-/
namespace Cctp
open Gen

/-- the four role slots the handlers read with a panicking getter are set. -/
structure RolesSet (st : Store) : Prop where
  owner : (getRole st Key.owner).isSome
  attesterManager : (getRole st Key.attesterManager).isSome
  pauser : (getRole st Key.pauser).isSome
  tokenController : (getRole st Key.tokenController).isSome

theorem parse_ne_panic (bz : Bytes) : Message.parse bz ≠ .error .panic := by
  simp only [Message.parse, guards]

theorem burn_parse_ne_panic (bz : Bytes) : BurnMessage.parse bz ≠ .error .panic := by
  simp only [BurnMessage.parse, guards]

theorem message_bytes_ne_panic (m : Message) : m.bytes ≠ .error .panic := by
  simp only [Message.bytes, guards]

/-- `BurnMessage.Bytes` can panic only on a nil amount or one of more than 256 bits. -/
theorem burn_bytes_ne_panic (b : BurnMessage) (a : Int) (ha : b.amount = some a) (hlt : a.natAbs < 2 ^ 256) :
    b.bytes ≠ .error .panic := by
  -- the bound checked is `256 ^ AmountLen`, which evaluates to `2 ^ 256`
  have hlt : a.natAbs < 256 ^ AmountLen := hlt
  simp only [BurnMessage.bytes, guards, ha, Option.isSome_some, Option.some.injEq, forall_eq', hlt]

theorem verifyLoop_ne_panic (ext : Ext) (d att : Bytes) (attesters : List Bytes) (t fuel i : Nat) (prev : Option Bytes)
    (hb : 65 * (i + fuel) ≤ att.length) (hlen : att.length < 2 ^ 32) :
    verifyLoop ext d att attesters t fuel i prev ≠ .error .panic := by
  induction fuel generalizing i prev with
  | zero => exact pure_ne_panic ()
  | succ fuel ih =>
    have ih' := fun p => ih (i + 1) p (verifyLoop_bounds hb).2
    simp only [verifyLoop_succ (verifyLoop_bounds hb).1 hlen, guards, ih']

theorem verify_ne_panic (ext : Ext) (msg att : Bytes) (attesters : List Bytes) (t : Nat) (hlen : att.length < 2 ^ 32) :
    verify ext msg att attesters t ≠ .error .panic := by
  simp only [verify, guards]
  intro hl _
  exact verifyLoop_ne_panic ext _ att attesters t t 0 none (by rw [Nat.zero_add]; exact Nat.le_of_eq hl.symm) hlen

theorem sendCore_ne_panic (st : Store) (d : Nat) (r c s : Bytes) (n : Nat) (b : Bytes) :
    sendCore st d r c s n b ≠ .error .panic := by
  simp only [sendCore, guards, message_bytes_ne_panic]

end Cctp
