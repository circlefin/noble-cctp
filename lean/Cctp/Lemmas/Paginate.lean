import Cctp.Lemmas.Result
import Cctp.Lemmas.Bytes
import Cctp.Model.Queries
/-
  `query.Paginate`: the offset-mode loop in closed form and the offset-mode page it yields.
-/
namespace Cctp

theorem sub_eq_sub_succ_add_one {c n : Nat} (h : c + 1 ≤ n) : n - c = n - (c + 1) + 1 :=
  (Nat.succ_pred_eq_of_pos (Nat.sub_pos_of_lt h)).symm

/-- once no entry can fall into the window any more (the count is past `end`, or `end` is below the offset)
    the loop only counts. -/
theorem pageLoop_past {off e : Nat} {ct : Bool} {l : List (Bytes × Val)} {c : Nat} {acc : List Val} {nk : Bytes}
    (h : e < off ∨ e < c) : pageLoop off e ct l c acc nk = (acc, nk, c + l.length) := by
  induction l generalizing c with
  | nil => rfl
  | cons p rest ih =>
    obtain ⟨k, v⟩ := p
    simp only [pageLoop, ih (c := c + 1) (h.imp_right Nat.lt_succ_of_lt), List.length_cons, Nat.add_assoc, Nat.add_comm 1]
    by_cases h1 : c + 1 ≤ off
    · exact if_pos h1
    · have hec : e < c := h.elim (fun h => Nat.lt_of_lt_of_le h (Nat.le_of_lt_succ (Nat.not_le.mp h1))) id
      rw [if_neg h1, if_neg (Nat.not_le.mpr (Nat.lt_succ_of_lt hec)),
        if_neg (Nat.ne_of_gt (Nat.lt_of_le_of_lt (u64_le _) (Nat.succ_lt_succ hec)))]

/-- **The offset-mode loop in closed form**, `count` entries into the collection: it collects the entries numbered
    `offset+1 … end`, takes the key of entry `end+1` (if there is one) as next key, and stops there unless it has
    to count on to the last entry. -/
theorem pageLoop_eq {off e : Nat} {ct : Bool} (he : u64 (e + 1) = e + 1) (hoe : off ≤ e) {l : List (Bytes × Val)} {c : Nat}
    {acc : List Val} {nk : Bytes} (hc : c ≤ e) :
    pageLoop off e ct l c acc nk =
      (acc ++ ((l.take (e - c)).drop (off - c)).map (·.2),
       match l.drop (e - c) with | (k, _) :: _ => k | [] => nk,
       if ct then c + l.length else min (c + l.length) (e + 1)) := by
  induction l generalizing c acc nk with
  | nil => simp only [pageLoop, List.take_nil, List.drop_nil, List.map_nil, List.append_nil, List.length_nil, Nat.add_zero,
      Nat.min_eq_left (Nat.le_succ_of_le hc), ite_self]
  | cons p rest ih =>
    obtain ⟨k, v⟩ := p
    simp only [pageLoop, List.length_cons]
    by_cases h2 : c + 1 ≤ e
    · rw [sub_eq_sub_succ_add_one h2, List.take_succ_cons, List.drop_succ_cons]
      by_cases h1 : c + 1 ≤ off
      · rw [if_pos h1, ih h2, sub_eq_sub_succ_add_one h1, List.drop_succ_cons, Nat.succ_add_eq_add_succ]
      · have hoc : off ≤ c := Nat.le_of_lt_succ (Nat.not_le.mp h1)
        rw [if_neg h1, if_pos h2, ih h2, Nat.sub_eq_zero_of_le hoc, Nat.sub_eq_zero_of_le (Nat.le_succ_of_le hoc),
          Nat.succ_add_eq_add_succ, List.drop_zero, List.drop_zero, List.map_cons, List.append_assoc, List.singleton_append]
    · -- entry `end+1`
      obtain rfl : c = e := Nat.le_antisymm hc (Nat.le_of_lt_succ (Nat.not_le.mp h2))
      rw [if_neg (Nat.not_le.mpr (Nat.lt_succ_of_le hoe)), if_neg h2, if_pos he.symm, Nat.sub_self,
        List.take_zero, List.drop_nil, List.map_nil, List.append_nil, List.drop_zero]
      cases ct
      · exact congrArg (acc, k, ·) (Nat.min_eq_right (Nat.add_le_add_left (Nat.le_add_left 1 _) c)).symm
      · exact (pageLoop_past (.inr (Nat.lt_succ_self c))).trans
          (congrArg (acc, k, ·) (Nat.succ_add_eq_add_succ ..))

theorem paginate_offset (all : List (Bytes × Val)) (off lim : Nat) (ct : Bool) (hl : lim ≠ 0) (hw : off + lim + 1 < 2 ^ 64) :
    paginate all (some ⟨[], off, lim, ct, false⟩) = .ok
      ⟨((all.drop off).take lim).map (·.2), headKey (all.drop (off + lim)), if ct then all.length else 0⟩ := by
  -- `↓reduceIte` decides the mode tests first, so the branches not taken are never walked
  simp only [paginate, ↓reduceIte, Option.getD_some, hl, List.length_nil, ne_eq, not_true_eq_false, and_false, not_false_eq_true,
    req_bind, Bool.false_eq_true, u64_eq (Nat.lt_of_succ_lt hw), pure_bind,
    pageLoop_eq (u64_eq hw) (Nat.le_add_right ..) (Nat.zero_le _),
    Nat.sub_zero, List.drop_take, Nat.add_sub_cancel_left, Nat.zero_add]
  -- what is left is the total: `if ct` against the `min` of the closed form
  cases ct <;> rfl

end Cctp
