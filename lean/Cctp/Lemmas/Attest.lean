import Cctp.Spec.Attestation
/-
  The attestation verifier, one turn of its loop at a time: on an attestation of less than 4 GiB the `uint32`
  offsets are exact, so turn `i` reads `Spec.chunk att i` and its slice is in range.  What the loop accepts
  (C01) and that it cannot panic (Lemmas/NoPanic.lean) are both read off that turn.
-/
namespace Cctp
open Gen Spec

/-- below 4 GiB the two `uint32` slice offsets of turn `i` are exact (`SignatureLength` is the constant 65 of Model/Consts.lean). -/
theorem u32_offsets (i : Nat) (h : 65 * i + 65 < 2 ^ 32) :
    u32 (i * SignatureLength) = 65 * i ∧ u32 (65 * i + SignatureLength) = 65 * i + 65 := by
  have e : i * SignatureLength = 65 * i := Nat.mul_comm i 65
  rw [e]
  exact ⟨Nat.mod_eq_of_lt (Nat.lt_of_le_of_lt (Nat.le_add_right ..) h), Nat.mod_eq_of_lt h⟩

theorem verifyLoop_succ {ext : Ext} {d att : Bytes} {attesters : List Bytes} {t fuel i : Nat} {prev : Option Bytes}
    (hb : 65 * i + 65 ≤ att.length) (hlen : att.length < 2 ^ 32) :
    verifyLoop ext d att attesters t (fuel + 1) i prev = (do
      let key ← getOr (ext.ecrecover d (normV (chunk att i)))
      reqAll prev (fun p => blt p (addrOf ext key) = true)
      req (isAttester attesters key)
      verifyLoop ext d att attesters t fuel (i + 1) (some (addrOf ext key))) := by
  have ho := u32_offsets i (Nat.lt_of_le_of_lt hb hlen)
  simp only [verifyLoop, ho.1, ho.2, Nat.le_add_right, hb, and_self, must, if_true, pure_bind, chunk]

theorem chunks_succ (att : Bytes) (i n : Nat) : chunks att i (n + 1) = chunk att i :: chunks att (i + 1) n := by
  simp only [chunks, List.range_succ_eq_map, List.map_cons, List.map_map, Function.comp_def, Nat.add_right_comm i 1]
  rfl

theorem verifyLoop_bounds {i fuel len : Nat} (hb : 65 * (i + (fuel + 1)) ≤ len) :
    65 * i + 65 ≤ len ∧ 65 * (i + 1 + fuel) ≤ len := by
  rw [← Nat.add_assoc, Nat.add_right_comm] at hb
  exact ⟨Nat.le_trans (Nat.mul_le_mul_left 65 (Nat.le_add_right (i + 1) fuel)) hb, hb⟩

end Cctp
