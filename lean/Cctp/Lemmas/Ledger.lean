import Cctp.Model.Ledger
import Cctp.Lemmas.Result
/-
  The ledger (bank + fiat-token-factory as x/cctp sees them).  Each of its three operations is one guard
  (`transfer_eq`, `burn_eq`, `mint_eq`): it pops the fault plan, and then either succeeds with an explicit new
  ledger or fails and changes nothing else.  When a call succeeds, and what it does to balances and supply, are
  read off that equation with `lookup_update`.
-/
namespace Cctp
namespace Ledger

theorem lookup_update {κ} [DecidableEq κ] (l : List (κ × Nat)) (k : κ) (v : Nat) (q : κ) :
    lookup (update l k v) q = if q = k then v else lookup l q := by
  induction l with
  | nil => rfl
  | cons p rest ih =>
    by_cases hk : k = p.1
    · subst hk
      simp only [update, lookup, if_true]
      by_cases hq : q = p.1
      · rw [if_pos hq, if_pos hq]
      · rw [if_neg hq, if_neg hq, if_neg hq]
    · simp only [update, lookup, ih, if_neg hk]
      by_cases hq : q = k
      · rw [if_pos hq, if_pos hq, if_neg (hq ▸ hk)]
      · rw [if_neg hq, if_neg hq]

/-- the fault bit a call consumes (an exhausted plan means "no fault"). -/
def nextFault (l : Ledger) : Bool := l.popFault.1

theorem popFault_eq (l : Ledger) : l.popFault = (l.faults.headD false, { l with faults := l.faults.tail }) := by
  obtain ⟨_, _, _, _ | _⟩ := l <;> rfl

theorem nextFault_eq (l : Ledger) : nextFault l = l.faults.headD false :=
  congrArg Prod.fst (popFault_eq l)

theorem ok_ite {α} (c : Prop) [Decidable c] (x y : α) : (if c then (true, x) else (false, y)).1 = true ↔ c := by
  by_cases h : c <;> simp only [h, if_true, if_false, Bool.false_eq_true]

theorem transfer_eq (l : Ledger) (a m d : Bytes) (amt : Int) : l.transfer a m d amt =
    if nextFault l = false ∧ 0 < amt ∧ amt.toNat ≤ l.balance a d then
      (true, { l with
        faults := l.faults.tail
        bal := update (update l.bal (a, d) (l.balance a d - amt.toNat)) (m, d)
          (lookup (update l.bal (a, d) (l.balance a d - amt.toNat)) (m, d) + amt.toNat) })
    else (false, { l with faults := l.faults.tail }) := by
  -- turn the last failing guard of the definition around, then merge the guards before it into it one by one;
  -- what `rfl` closes is the two spellings of the updated record (also in `burn_eq`, `mint_eq`)
  simp only [transfer, nextFault, popFault_eq, ← ite_not (_ < _), ite_ite_not_and, Bool.not_eq_true, Int.not_le,
    Nat.not_lt]
  rfl

theorem burn_eq (l : Ledger) (m d : Bytes) (amt : Int) : l.burn true m d amt =
    if nextFault l = false ∧ d = l.mintingDenom ∧ 0 < amt ∧ amt.toNat ≤ l.balance m d then
      (true, { l with
        faults := l.faults.tail
        bal := update l.bal (m, d) (l.balance m d - amt.toNat)
        supply := update l.supply d (l.supplyOf d - amt.toNat) })
    else (false, { l with faults := l.faults.tail }) := by
  simp only [burn, nextFault, popFault_eq, ← ite_not (_ < _), ite_ite_not_and, Bool.not_eq_true, Int.not_le,
    Nat.not_lt, Bool.not_true, Bool.false_eq_true, ne_eq, Decidable.not_not, not_false_eq_true, true_and]
  rfl

theorem mint_eq (l : Ledger) (a d : Bytes) (amt : Int) : l.mint true (some a) d amt =
    if nextFault l = false ∧ d = l.mintingDenom ∧ 0 < amt then
      (true, { l with
        faults := l.faults.tail
        bal := update l.bal (a, d) (l.balance a d + amt.toNat)
        supply := update l.supply d (l.supplyOf d + amt.toNat) })
    else (false, { l with faults := l.faults.tail }) := by
  simp only [mint, nextFault, popFault_eq, ← ite_not (_ ≤ _), ite_ite_not_and, Bool.not_eq_true, Int.not_le,
    Bool.not_true, Bool.false_eq_true, ne_eq, Decidable.not_not, not_false_eq_true, true_and]
  rfl

theorem mint_none (l : Ledger) (d : Bytes) (amt : Int) : (l.mint true none d amt).1 = false := by
  -- with no recipient every branch of the guard ladder fails, so the ladder collapses
  simp only [mint, ite_self]

theorem transfer_ok_iff (l : Ledger) (a m d : Bytes) (amt : Int) :
    (l.transfer a m d amt).1 = true ↔ nextFault l = false ∧ 0 < amt ∧ amt.toNat ≤ l.balance a d := by
  rw [transfer_eq]; exact ok_ite ..

theorem burn_ok_iff (l : Ledger) (m d : Bytes) (amt : Int) :
    (l.burn true m d amt).1 = true ↔
      nextFault l = false ∧ d = l.mintingDenom ∧ 0 < amt ∧ amt.toNat ≤ l.balance m d := by
  rw [burn_eq]; exact ok_ite ..

theorem mint_ok_iff (l : Ledger) (to : Option Bytes) (d : Bytes) (amt : Int) :
    (l.mint true to d amt).1 = true ↔ ∃ a, to = some a ∧ nextFault l = false ∧ d = l.mintingDenom ∧ 0 < amt := by
  cases to with
  | none => simp only [mint_none, Bool.false_eq_true, reduceCtorEq, false_and, exists_false]
  | some a => simp only [mint_eq, ok_ite, Option.some.injEq, exists_eq_left']

/-- a set fault bit makes the call fail, whatever else holds. -/
theorem mint_fault (l : Ledger) (to : Option Bytes) (denom : Bytes) (amt : Int) (h : nextFault l = true) :
    (l.mint true to denom amt).1 = false :=
  Bool.eq_false_iff.2 fun hm => by
    obtain ⟨_, _, hf, _⟩ := (mint_ok_iff ..).1 hm
    cases h.symm.trans hf

/-- whether or not it succeeds, a transfer touches balances and the fault plan only. -/
theorem transfer_faults (l : Ledger) (a m d : Bytes) (amt : Int) : (l.transfer a m d amt).2.faults = l.faults.tail := by
  rw [transfer_eq]; split <;> rfl

theorem transfer_mintingDenom (l : Ledger) (a m d : Bytes) (amt : Int) :
    (l.transfer a m d amt).2.mintingDenom = l.mintingDenom := by
  rw [transfer_eq]; split <;> rfl

theorem supplyOf_transfer (l : Ledger) (a m d : Bytes) (amt : Int) (d' : Bytes) :
    (l.transfer a m d amt).2.supplyOf d' = l.supplyOf d' := by
  rw [transfer_eq]; split <;> rfl

/-- balances after a successful call, at any account and denom (a transfer to oneself, where the credit lands on
    the entry just debited, is left out). -/
theorem balance_transfer {l : Ledger} {a m d : Bytes} {amt : Int} (h : (l.transfer a m d amt).1 = true) (hne : a ≠ m)
    (a' d' : Bytes) : (l.transfer a m d amt).2.balance a' d' =
      if (a', d') = (m, d) then l.balance m d + amt.toNat
      else if (a', d') = (a, d) then l.balance a d - amt.toNat else l.balance a' d' := by
  rw [transfer_eq, if_pos ((transfer_ok_iff ..).1 h)]
  simp only [balance, lookup_update]
  rw [if_neg (fun e => hne (Prod.mk.inj e).1.symm)]

theorem balance_burn {l : Ledger} {m d : Bytes} {amt : Int} (h : (l.burn true m d amt).1 = true) (a' d' : Bytes) :
    (l.burn true m d amt).2.balance a' d' =
      if (a', d') = (m, d) then l.balance m d - amt.toNat else l.balance a' d' := by
  rw [burn_eq, if_pos ((burn_ok_iff ..).1 h)]
  exact lookup_update ..

theorem supplyOf_burn {l : Ledger} {m d : Bytes} {amt : Int} (h : (l.burn true m d amt).1 = true) (d' : Bytes) :
    (l.burn true m d amt).2.supplyOf d' = if d' = d then l.supplyOf d - amt.toNat else l.supplyOf d' := by
  rw [burn_eq, if_pos ((burn_ok_iff ..).1 h)]
  exact lookup_update ..

theorem balance_mint {l : Ledger} {a d : Bytes} {amt : Int} (h : (l.mint true (some a) d amt).1 = true)
    (a' d' : Bytes) : (l.mint true (some a) d amt).2.balance a' d' =
      if (a', d') = (a, d) then l.balance a d + amt.toNat else l.balance a' d' := by
  rw [mint_eq] at h ⊢
  rw [if_pos ((ok_ite ..).1 h)]
  exact lookup_update ..

theorem supplyOf_mint {l : Ledger} {a d : Bytes} {amt : Int} (h : (l.mint true (some a) d amt).1 = true) (d' : Bytes) :
    (l.mint true (some a) d amt).2.supplyOf d' = if d' = d then l.supplyOf d + amt.toNat else l.supplyOf d' := by
  rw [mint_eq] at h ⊢
  rw [if_pos ((ok_ite ..).1 h)]
  exact lookup_update ..

end Ledger
end Cctp
