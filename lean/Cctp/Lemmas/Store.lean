import Cctp.Model.Store
/-
  Store algebra: the sorted association list behaves as a finite map.
-/
namespace Cctp

theorem blt_iff_lt {a b : Bytes} : blt a b = true ↔ a < b := by
  fun_induction blt a b <;> simp [List.cons_lt_cons_iff, *]

theorem blt_irrefl (a : Bytes) : blt a a = false :=
  Bool.eq_false_iff.mpr fun h => List.lt_irrefl a (blt_iff_lt.mp h)

theorem blt_trans {a b c : Bytes} (h1 : blt a b = true) (h2 : blt b c = true) : blt a c = true :=
  blt_iff_lt.mpr (List.lt_trans (blt_iff_lt.mp h1) (blt_iff_lt.mp h2))

theorem blt_asymm {a b : Bytes} (h : blt a b = true) : blt b a = false :=
  Bool.eq_false_iff.mpr fun hb => Bool.false_ne_true ((blt_irrefl a).symm.trans (blt_trans h hb))

theorem blt_ne {a b : Bytes} (h : blt a b = true) : a ≠ b := by
  rintro rfl
  exact List.lt_irrefl a (blt_iff_lt.mp h)

theorem blt_trichotomy (a b : Bytes) : blt a b = true ∨ a = b ∨ blt b a = true := by
  rw [blt_iff_lt, blt_iff_lt]
  exact Std.lt_trichotomy a b

namespace Store

/-- keys strictly increasing. -/
def WF : Store → Prop
  | [] => True
  | (k, _) :: rest => (∀ e ∈ rest, blt k e.1 = true) ∧ WF rest

theorem wf_nil : WF ([] : Store) := trivial

theorem wf_iff_pairwise {s : Store} : s.WF ↔ s.Pairwise fun a b => blt a.1 b.1 = true := by
  induction s with
  | nil => exact ⟨fun _ => .nil, fun _ => trivial⟩
  | cons p rest ih => simp only [WF, ih, List.pairwise_cons]

theorem keys_nodup {s : Store} (h : s.WF) : (s.map Prod.fst).Nodup :=
  List.pairwise_map.mpr ((wf_iff_pairwise.mp h).imp blt_ne)

theorem get_set_same (s : Store) (k : Bytes) (v : Val) : (s.set k v).get k = some v := by
  fun_induction set s k v <;> simp [get, *]

theorem get_set_other (s : Store) (k k2 : Bytes) (v : Val) (hne : k2 ≠ k) : (s.set k v).get k2 = s.get k2 := by
  fun_induction set s k v <;> simp [get, *]

theorem get_del_other (s : Store) (k k2 : Bytes) (hne : k2 ≠ k) : (s.del k).get k2 = s.get k2 := by
  fun_induction del s k <;> simp [get, *]

theorem mem_of_get {s : Store} {k : Bytes} {v : Val} (hg : s.get k = some v) : (k, v) ∈ s := by
  fun_induction get s k <;> simp_all

theorem _root_.Cctp.get_none_of_all_gt {s : Store} {k : Bytes} (h : ∀ e ∈ s, blt k e.1 = true) : s.get k = none :=
  Option.eq_none_iff_forall_ne_some.mpr fun _ hg => blt_ne (h _ (mem_of_get hg)) rfl

theorem get_of_mem {s : Store} (h : s.WF) {k : Bytes} {v : Val} (hm : (k, v) ∈ s) : s.get k = some v := by
  induction s with
  | nil => cases hm
  | cons p rest ih =>
    rcases List.mem_cons.mp hm with rfl | hm
    · simp [get]
    · rw [get, if_neg (blt_ne (h.1 _ hm)).symm, ih h.2 hm]

theorem mem_iff_get {s : Store} (h : s.WF) (k : Bytes) (v : Val) : (k, v) ∈ s ↔ s.get k = some v :=
  ⟨get_of_mem h, mem_of_get⟩

theorem mem_scan {s : Store} {p : Bytes} {e : Bytes × Val} : e ∈ s.scan p ↔ e ∈ s ∧ isPrefixOf p e.1 = true := by
  simp [scan]

theorem has_iff (s : Store) (k : Bytes) : s.has k = true ↔ ∃ v, s.get k = some v := by
  simp [has, Option.isSome_iff_exists]

theorem forall_mem_set {P : Bytes × Val → Prop} {s : Store} {k : Bytes} {v : Val} (hk : P (k, v)) (hs : ∀ e ∈ s, P e) :
    ∀ e ∈ s.set k v, P e := by
  fun_induction set s k v with simp only [List.forall_mem_cons] at hs ⊢
  | case1 => exact ⟨hk, hs⟩
  | case2 => exact ⟨hk, hs.2⟩
  | case3 => exact ⟨hk, hs⟩
  | case4 k' v' rest k v hne hnlt ih => exact ⟨hs.1, ih hk hs.2⟩

theorem del_sublist (s : Store) (k : Bytes) : (s.del k).Sublist s := by
  fun_induction del s k <;> simp [*]

theorem wf_set (s : Store) (k : Bytes) (v : Val) (h : s.WF) : (s.set k v).WF := by
  fun_induction set s k v with
  | case1 => simp [WF]
  | case2 => exact h
  | case3 k' v' rest k v hne hlt => exact ⟨List.forall_mem_cons.mpr ⟨hlt, fun e he => blt_trans hlt (h.1 e he)⟩, h⟩
  | case4 k' v' rest k v hne hnlt ih =>
    exact ⟨forall_mem_set (((blt_trichotomy k k').resolve_left hnlt).resolve_left hne) h.1, ih h.2⟩

theorem wf_del (s : Store) (k : Bytes) (h : s.WF) : (s.del k).WF :=
  wf_iff_pairwise.mpr ((wf_iff_pairwise.mp h).sublist (del_sublist s k))

theorem get_del_same (s : Store) (k : Bytes) (h : s.WF) : (s.del k).get k = none := by
  fun_induction del s k with
  | case1 => rfl
  | case2 => exact get_none_of_all_gt h.1
  | case3 k' v' rest k hne ih => rw [get, if_neg hne, ih h.2]

/-- sorted lists with the same members are equal (and `mem_iff_get`: the members are what `get` finds). -/
theorem ext_of_get {s1 s2 : Store} (h1 : s1.WF) (h2 : s2.WF) (h : ∀ k, s1.get k = s2.get k) : s1 = s2 := by
  have p1 := wf_iff_pairwise.mp h1
  have p2 := wf_iff_pairwise.mp h2
  have ne {a b : Bytes × Val} (hlt : blt a.1 b.1 = true) : a ≠ b := fun e => blt_ne hlt (congrArg Prod.fst e)
  refine List.Perm.eq_of_pairwise (fun a b _ _ hab hba => ?_) p1 p2 ?_
  · exact absurd (blt_trans hab hba) (Bool.eq_false_iff.mp (blt_irrefl _))
  · refine (List.perm_ext_iff_of_nodup (p1.imp ne) (p2.imp ne)).mpr fun (k, v) => ?_
    rw [mem_iff_get h1, mem_iff_get h2, h k]

theorem set_eq_self {s : Store} {k : Bytes} {v : Val} (hwf : s.WF) (h : s.get k = some v) : s.set k v = s :=
  ext_of_get (wf_set s k v hwf) hwf fun k2 => by
    by_cases e : k2 = k
    · rw [e, get_set_same, h]
    · exact get_set_other s k k2 v e

theorem set_set (s : Store) (k : Bytes) (v v' : Val) : (s.set k v).set k v' = s.set k v' := by
  fun_induction set s k v <;> simp [set, *]

theorem del_set {s : Store} {k : Bytes} (v : Val) (h : s.get k = none) : (s.set k v).del k = s := by
  fun_induction set s k v <;> simp_all [del, get]

theorem perm_del {s : Store} {k : Bytes} {v : Val} (h : s.get k = some v) : s.Perm ((k, v) :: s.del k) := by
  fun_induction del s k with
  | case1 => cases h
  | case2 v' rest k =>
    obtain rfl : v' = v := by simpa [get] using h
    exact .refl _
  | case3 k' v' rest k hne ih =>
    rw [get, if_neg hne] at h
    exact ((ih h).cons _).trans (.swap ..)

theorem scan_set_other (s : Store) (k : Bytes) (v : Val) (p : Bytes) (h : isPrefixOf p k = false) :
    (s.set k v).scan p = s.scan p := by
  unfold scan
  fun_induction set s k v <;> simp [List.filter, *]

theorem scan_del_other (s : Store) (k : Bytes) (p : Bytes) (h : isPrefixOf p k = false) :
    (s.del k).scan p = s.scan p := by
  unfold scan
  fun_induction del s k <;> simp [List.filter, *]

/-- how many entries of a prefix scan a `filterMap` selects, after a delete or a set under the prefix. -/
theorem length_scan_filterMap_del {β} (p : Bytes) (g : Bytes × Val → Option β) {s : Store} {k : Bytes} {v : Val}
    (h : s.get k = some v) (hp : isPrefixOf p k = true) (hv : (g (k, v)).isSome) :
    (((s.del k).scan p).filterMap g).length + 1 = ((s.scan p).filterMap g).length := by
  obtain ⟨b, hb⟩ := Option.isSome_iff_exists.mp hv
  rw [scan, scan, (((perm_del h).filter _).filterMap g).length_eq, List.filter_cons, if_pos hp,
    List.filterMap_cons_some hb, List.length_cons]

theorem length_scan_filterMap_set {β} (p : Bytes) (g : Bytes × Val → Option β) {s : Store} {k : Bytes} {v : Val}
    (h : s.get k = none) (hp : isPrefixOf p k = true) (hv : (g (k, v)).isSome) :
    (((s.set k v).scan p).filterMap g).length = ((s.scan p).filterMap g).length + 1 := by
  rw [← length_scan_filterMap_del p g (get_set_same s k v) hp hv, del_set v h]

theorem wf_apply (s : Store) (w : Write) (h : s.WF) : (s.apply w).WF := by
  obtain ⟨k, _ | v⟩ := w
  · exact wf_del s k h
  · exact wf_set s k v h

theorem wf_applyAll (s : Store) (ws : List Write) (h : s.WF) : (s.applyAll ws).WF :=
  List.foldlRecOn ws apply h fun s hs w _ => wf_apply s w hs

theorem get_apply_other (s : Store) (w : Write) (k : Bytes) (hne : k ≠ w.1) : (s.apply w).get k = s.get k := by
  obtain ⟨k', _ | v⟩ := w
  · exact get_del_other s k' k hne
  · exact get_set_other s k' k v hne

theorem get_applyAll_other (s : Store) (ws : List Write) (k : Bytes) (h : ∀ w ∈ ws, k ≠ w.1) :
    (s.applyAll ws).get k = s.get k :=
  List.foldlRecOn (motive := fun s' => s'.get k = s.get k) ws apply rfl
    fun s' e w hw => (get_apply_other s' w k (h w hw)).trans e

/-- `Q` holds of every key and value a batch sets (a delete has nothing to check).  Recursive, so that on the
    concrete batch of a handler it unfolds to a conjunction and is proved without rewriting. -/
def SetsAll (Q : Bytes → Val → Prop) : List Write → Prop
  | [] => True
  | (k, some v) :: ws => Q k v ∧ SetsAll Q ws
  | (_, none) :: ws => SetsAll Q ws

theorem setsAll_iff {Q : Bytes → Val → Prop} {ws : List Write} :
    SetsAll Q ws ↔ ∀ w ∈ ws, ∀ v, w.2 = some v → Q w.1 v := by
  induction ws with
  | nil => simp [SetsAll]
  | cons w ws ih =>
    rw [List.forall_mem_cons, ← ih]
    obtain ⟨k, _ | v⟩ := w <;> simp [SetsAll]


theorem get_apply (s : Store) (w : Write) (k : Bytes) (hwf : s.WF) :
    (s.apply w).get k = if k = w.1 then w.2 else s.get k := by
  split
  next hk =>
    subst hk
    obtain ⟨k, _ | v⟩ := w
    · exact get_del_same s k hwf
    · exact get_set_same s k v
  next hk => exact get_apply_other s w k hk

/-- a property of every stored entry survives a batch of writes each of whose written values has it: the
    shape of every store invariant (typing, nonce ranges, …). -/
theorem forall_get_applyAll {Q : Bytes → Val → Prop} {s : Store} (ws : List Write) (hwf : s.WF)
    (hs : ∀ k v, s.get k = some v → Q k v) (hw : ∀ w ∈ ws, ∀ v, w.2 = some v → Q w.1 v) :
    ∀ k v, (s.applyAll ws).get k = some v → Q k v := by
  induction ws generalizing s with
  | nil => exact hs
  | cons w ws ih =>
    obtain ⟨hw, hws⟩ := List.forall_mem_cons.mp hw
    refine ih (wf_apply s w hwf) (fun k v hg => ?_) hws
    rw [get_apply s w k hwf] at hg
    split at hg
    next e => exact e ▸ hw v hg
    next => exact hs k v hg

theorem scan_applyAll_other (s : Store) (ws : List Write) (p : Bytes) (h : ∀ w ∈ ws, isPrefixOf p w.1 = false) :
    (s.applyAll ws).scan p = s.scan p :=
  List.foldlRecOn (motive := fun s' => s'.scan p = s.scan p) ws apply rfl fun s' e w hw => by
    obtain ⟨k, _ | v⟩ := w
    · exact (scan_del_other s' k p (h _ hw)).trans e
    · exact (scan_set_other s' k v p (h _ hw)).trans e

end Store

end Cctp
