/-
  Prefix and suffix tests on strings as tests on their UTF-8 bytes, for the theorems that evaluate such tests over a
  generated table.  The kernel can examine a string literal only through `String.toByteArray`; `startsWith` and
  `endsWith` get there by a much longer way round than a comparison of byte lists does.
-/
namespace String

/-- the UTF-8 bytes of a string as a list. -/
def utf8 (s : String) : List UInt8 := s.toByteArray.data.toList

theorem utf8_append (s t : String) : (s ++ t).utf8 = s.utf8 ++ t.utf8 := by
  simp [utf8, toByteArray_append, ByteArray.data_append]

theorem utf8_of_toList {s t u : String} (h : t.toList ++ u.toList = s.toList) : t.utf8 ++ u.utf8 = s.utf8 := by
  rw [← toList_append, toList_inj] at h
  rw [← h, utf8_append]

/-- a byte prefix that is itself a string ends at a character boundary of `s`: core's
    `isPrefix_of_utf8Encode_append_eq_utf8Encode` turns it into a prefix of the character lists. -/
theorem startsWith_eq_isPrefixOf (s p : String) : s.startsWith p = p.utf8.isPrefixOf s.utf8 := by
  rw [Bool.eq_iff_iff, startsWith_string_iff, List.isPrefixOf_iff_prefix]
  refine ⟨fun ⟨l, h⟩ => ⟨(ofList l).utf8, utf8_of_toList (by rwa [toList_ofList])⟩, fun ⟨r, hr⟩ => ?_⟩
  apply List.isPrefix_of_utf8Encode_append_eq_utf8Encode ⟨⟨r⟩⟩
  rw [utf8Encode_toList, utf8Encode_toList, show s.toByteArray = ⟨⟨s.utf8⟩⟩ from rfl, ← hr]
  rfl

theorem endsWith_eq_isSuffixOf (s p : String) : s.endsWith p = p.utf8.isSuffixOf s.utf8 := by
  rw [Bool.eq_iff_iff, ← endsWith_toSlice, Slice.endsWith_string_iff, copy_toSlice, List.isSuffixOf_iff_suffix]
  refine ⟨fun ⟨l, h⟩ => ⟨(ofList l).utf8, utf8_of_toList (by rwa [toList_ofList])⟩, fun ⟨r, hr⟩ => ?_⟩
  -- a byte suffix that is itself a string starts at a character boundary of `s`, so the bytes `r` before it are a string too
  generalize hb : (⟨⟨r⟩⟩ : ByteArray) = b
  have hs : s.toByteArray = b ++ p.toByteArray := by
    rw [show s.toByteArray = ⟨⟨s.utf8⟩⟩ from rfl, ← hr, ← hb]
    rfl
  have hv : Pos.Raw.IsValid s ⟨b.size⟩ := by
    rw [Pos.Raw.isValid_iff_isValidUTF8_extract_utf8ByteSize, ← size_toByteArray, hs,
      ByteArray.extract_append_eq_right rfl ByteArray.size_append]
    exact ⟨by simp [Pos.Raw.le_iff, ← size_toByteArray, hs], p.isValidUTF8⟩
  obtain ⟨m₁, m₂, h₁, h₂⟩ := hv.exists
  have h₃ := congrArg toByteArray h₂
  rw [hs, ByteArray.extract_append_eq_left rfl] at h₁
  rw [toByteArray_ofList, List.utf8Encode_append, h₁, hs, ByteArray.append_right_inj, ← toByteArray_ofList,
    toByteArray_inj] at h₃
  rw [← h₂, ← h₃, toList_ofList, toList_ofList]
  exact List.suffix_append m₁ m₂

end String
