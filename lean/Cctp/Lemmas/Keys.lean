import Cctp.Model.Keys
import Cctp.Lemmas.Bytes
/-
  Key spaces: every key constructor lands in its own class (decided on the key bytes of Model/Consts.lean, which
  C19Static compares with the ones regenerated from /repo's keys.go), so keys of different classes never collide;
  item keys are injective in the item (the fixed-width ones on their range, the token-pair key up to the hash).
-/
namespace Cctp
open Gen

/-- the key space a full store key belongs to, read off its first bytes. -/
def Key.cls : Bytes → Nat
  | 111 :: _ => 0            -- "owner"
  | 112 :: 101 :: _ => 1     -- "pending-owner"
  | 97 :: _ => 2             -- "attester-manager"
  | 112 :: 97 :: _ => 3      -- "pauser"
  | 116 :: _ => 4            -- "token-controller"
  | 66 :: _ => 5             -- "BurningAndMintingPaused/value/"
  | 83 :: 101 :: _ => 6      -- "SendingAndReceivingMessagesPaused/value/"
  | 77 :: _ => 7             -- "MaxMessageBodySize/value/"
  | 78 :: _ => 8             -- "NextAvailableNonce/value/"
  | 83 :: 105 :: _ => 9      -- "SignatureThreshold/value/"
  | 65 :: _ => 10            -- "Attester/value/"
  | 80 :: _ => 11            -- "PerMessageBurnLimit/value/"
  | 85 :: _ => 12            -- "UsedNonce/value/"
  | 84 :: _ => 13            -- "TokenPair/value/"
  | 82 :: _ => 14            -- "RemoteTokenMessenger/value/"
  | _ => 99

namespace Key
@[simp] theorem cls_owner : cls owner = 0 := rfl
@[simp] theorem cls_pendingOwner : cls pendingOwner = 1 := rfl
@[simp] theorem cls_attesterManager : cls attesterManager = 2 := rfl
@[simp] theorem cls_pauser : cls pauser = 3 := rfl
@[simp] theorem cls_tokenController : cls tokenController = 4 := rfl
@[simp] theorem cls_burnPaused : cls burnPaused = 5 := rfl
@[simp] theorem cls_sendPaused : cls sendPaused = 6 := rfl
@[simp] theorem cls_maxBody : cls maxBody = 7 := rfl
@[simp] theorem cls_nextNonce : cls nextNonce = 8 := rfl
@[simp] theorem cls_threshold : cls threshold = 9 := rfl
@[simp] theorem cls_attester (a : Bytes) : cls (attester a) = 10 := rfl
@[simp] theorem cls_limit (d : Bytes) : cls (limit d) = 11 := rfl
@[simp] theorem cls_usedNonce (d n : Nat) : cls (usedNonce d n) = 12 := rfl
@[simp] theorem cls_tokenPair (ext : Ext) (d : Nat) (t : Bytes) : cls (tokenPair ext d t) = 13 := rfl
@[simp] theorem cls_messenger (d : Nat) : cls (messenger d) = 14 := rfl

theorem ne_of_cls {k1 k2 : Bytes} (h : cls k1 ≠ cls k2) : k1 ≠ k2 := fun e => h (e ▸ rfl)

/-- where the first byte decides the class, a prefix decides it. -/
theorem cls_of_head {a : UInt8} {p k : Bytes} {n : Nat} (h : isPrefixOf (a :: p) k = true) (hc : ∀ t, cls (a :: t) = n) :
    cls k = n := by
  obtain ⟨r, rfl⟩ := isPrefixOf_iff.mp h
  exact hc (p ++ r)

theorem cls_of_prefix_attester (k : Bytes) (h : isPrefixOf AttesterKeyPrefix k = true) : cls k = 10 :=
  cls_of_head h fun _ => rfl
theorem not_attester_prefix {k : Bytes} (h : cls k ≠ 10) : isPrefixOf AttesterKeyPrefix k = false :=
  Bool.eq_false_iff.mpr fun hp => h (cls_of_prefix_attester k hp)
theorem cls_of_prefix_usedNonce (k : Bytes) (h : isPrefixOf UsedNonceKeyPrefix k = true) : cls k = 12 :=
  cls_of_head h fun _ => rfl
theorem cls_of_prefix_limit (k : Bytes) (h : isPrefixOf PerMessageBurnLimitKeyPrefix k = true) : cls k = 11 :=
  cls_of_head h fun _ => rfl
theorem cls_of_prefix_tokenPair (k : Bytes) (h : isPrefixOf TokenPairKeyPrefix k = true) : cls k = 13 :=
  cls_of_head h fun _ => rfl
theorem cls_of_prefix_messenger (k : Bytes) (h : isPrefixOf RemoteTokenMessengerKeyPrefix k = true) : cls k = 14 :=
  cls_of_head h fun _ => rfl

end Key

theorem append_left_cancel' {a b c : Bytes} (h : a ++ b = a ++ c) : b = c := List.append_cancel_left h

theorem append_inj_of_length {a b c d : Bytes} (h : a ++ b = c ++ d) (hl : a.length = c.length) : a = c ∧ b = d :=
  List.append_inj h hl

/-- item keys are `prefix ‖ item ‖ "/"`. -/
theorem item_inj {p s a a' : Bytes} (h : p ++ a ++ s = p ++ a' ++ s) : a = a' :=
  List.append_cancel_left (List.append_cancel_right h)

/-- the used-nonce key determines (domain, nonce) on uint32 × uint64 (`be_inj 4` wants `d < 256 ^ 4`: the same
    number as `2 ^ 32`, by evaluation). -/
theorem usedNonceKey_injective (d n d' n' : Nat) (hd : d < 2 ^ 32) (hn : n < 2 ^ 64) (hd' : d' < 2 ^ 32)
    (hn' : n' < 2 ^ 64) (h : Key.usedNonce d n = Key.usedNonce d' n') : d = d' ∧ n = n' := by
  obtain ⟨h1, h2⟩ := List.append_inj' (List.append_cancel_right h) (by rw [be_length, be_length])
  exact ⟨be_inj 4 d d' hd hd' (List.append_cancel_left h1), be_inj 8 n n' hn hn' h2⟩

theorem messengerKey_injective (d d' : Nat) (hd : d < 2 ^ 32) (hd' : d' < 2 ^ 32)
    (h : Key.messenger d = Key.messenger d') : d = d' :=
  be_inj 4 d d' hd hd' (item_inj h)

theorem attesterKey_injective (a a' : Bytes) (h : Key.attester a = Key.attester a') : a = a' :=
  item_inj h

theorem limitKey_injective (a a' : Bytes) (h : Key.limit a = Key.limit a') : a = a' :=
  item_inj h

/-- token-pair keys are `keccak(BE32 domain ‖ token) ‖ "/"`: injective exactly as far as Keccak is on the
    inputs involved (stated as a hypothesis about the two preimages, never as an axiom). -/
theorem tokenPairKey_injective (ext : Ext) (d d' : Nat) (t t' : Bytes) (hd : d < 2 ^ 32) (hd' : d' < 2 ^ 32)
    (hk : ext.keccak256 (be DomainBytesLen d ++ t) = ext.keccak256 (be DomainBytesLen d' ++ t') →
          be DomainBytesLen d ++ t = be DomainBytesLen d' ++ t')
    (h : Key.tokenPair ext d t = Key.tokenPair ext d' t') : d = d' ∧ t = t' := by
  obtain ⟨h1, h2⟩ := List.append_inj (hk (item_inj h)) (by rw [be_length, be_length])
  exact ⟨be_inj 4 d d' hd hd' h1, h2⟩

end Cctp
