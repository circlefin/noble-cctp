import Cctp.Lemmas.Handlers
/-
  What a successful handler call returns, for all 25 transaction types at once: its store writes as a function
  of the message and the pre-state, and the one shape the 18 privileged handlers share.  Frame, typing and
  write-set facts are then facts about `writesOf`, with no handler reasoning.
-/
namespace Cctp

variable {ext : Ext} {cfg : Cfg} {st : Store} {led : Ledger} {m : Msg} {o : Out}

namespace C10

/-! `C10.roleKey` and `C10.privileged` are defined here, below the property files, because `handle_admin` is stated with them. -/

/-- the store key of the role each of the 18 privileged transaction types requires. -/
def roleKey : Msg → Option Bytes
  | .updateOwner .. | .updateAttesterManager .. | .updatePauser .. | .updateTokenController ..
  | .updateMaxMessageBodySize .. | .addRemoteTokenMessenger .. | .removeRemoteTokenMessenger .. => some Key.owner
  | .enableAttester .. | .disableAttester .. | .updateSignatureThreshold .. => some Key.attesterManager
  | .pauseBurning _ | .unpauseBurning _ | .pauseSending _ | .unpauseSending _ => some Key.pauser
  | .linkTokenPair .. | .unlinkTokenPair .. | .setMaxBurnAmountPerMessage .. => some Key.tokenController
  | .acceptOwner _ => some Key.pendingOwner
  | _ => none

/-- a transaction type is privileged when it requires a role (18 of the 25 are, `C10.privileged_count`). -/
def privileged (m : Msg) : Bool := (roleKey m).isSome

end C10

/-- the store writes of a successful call. -/
def writesOf (ext : Ext) (st : Store) : Msg → List Store.Write
  | .acceptOwner f => [(Key.owner, some (.role f)), (Key.pendingOwner, none)]
  | .addRemoteTokenMessenger _ d a => [(Key.messenger d, some (.messenger d a))]
  | .depositForBurn .. | .depositForBurnWithCaller .. | .sendMessage .. | .sendMessageWithCaller .. =>
    [(reserveNonce st).2]
  | .disableAttester _ a => [(Key.attester a, none)]
  | .enableAttester _ a => [(Key.attester a, some (.attester a))]
  | .linkTokenPair _ d t l => [(Key.tokenPair ext d t, some (.pair d t (ext.toLower l)))]
  | .pauseBurning _ => [(Key.burnPaused, some (.flag true))]
  | .pauseSending _ => [(Key.sendPaused, some (.flag true))]
  | .receiveMessage _ msg _ =>
    match Message.parse msg with
    | .ok m => [(Key.usedNonce m.sourceDomain m.nonce, some (.nonce m.sourceDomain m.nonce))]
    | .error _ => []
  | .removeRemoteTokenMessenger _ d => [(Key.messenger d, none)]
  | .replaceDepositForBurn .. | .replaceMessage .. => []
  -- the key deleted is derived from the STORED pair, not from the request
  | .unlinkTokenPair _ d t _ =>
    match getPair ext st d t with
    | some p => [(Key.tokenPair ext d p.2.1, none)]
    | none => []
  | .unpauseBurning _ => [(Key.burnPaused, some (.flag false))]
  | .unpauseSending _ => [(Key.sendPaused, some (.flag false))]
  | .updateOwner _ n => [(Key.pendingOwner, some (.role n))]
  | .updateAttesterManager _ n => [(Key.attesterManager, some (.role n))]
  | .updateTokenController _ n => [(Key.tokenController, some (.role n))]
  | .updatePauser _ n => [(Key.pauser, some (.role n))]
  | .updateMaxMessageBodySize _ s => [(Key.maxBody, some (.size s))]
  | .setMaxBurnAmountPerMessage _ l a => [(Key.limit (ext.toLower l), some (.limit (ext.toLower l) (a.getD 0)))]
  | .updateSignatureThreshold _ a => [(Key.threshold, some (.threshold a))]

/-- **The administrative shape.**  A privileged call that succeeds was made by the holder of its role and
    returns its writes and one event: no dependency call, the ledger as it was, an empty response. -/
theorem handle_admin {k : Bytes} (hk : C10.roleKey m = some k) (h : handle ext cfg st led m = .ok o) :
    getRole st k = some m.from_ ∧ ∃ ev, adminOut led (writesOf ext st m) ev = o := by
  cases m with
  | acceptOwner f => obtain ⟨_, _, hr, rfl⟩ := (acceptOwner_ok ..).mp h; cases hk; exact ⟨hr, _, rfl⟩
  | addRemoteTokenMessenger f d a =>
    obtain ⟨hr, _, _, rfl⟩ := (addRemoteTokenMessenger_ok ..).mp h; cases hk; exact ⟨hr, _, rfl⟩
  | disableAttester f a => obtain ⟨hr, _, _, _, _, _, _, rfl⟩ := (disableAttester_ok ..).mp h; cases hk; exact ⟨hr, _, rfl⟩
  | enableAttester f a => obtain ⟨hr, _, _, rfl⟩ := (enableAttester_ok ..).mp h; cases hk; exact ⟨hr, _, rfl⟩
  | linkTokenPair f d t l => obtain ⟨hr, _, _, rfl⟩ := (linkTokenPair_ok ..).mp h; cases hk; exact ⟨hr, _, rfl⟩
  | pauseBurning f => obtain ⟨hr, rfl⟩ := (setFlag_ok ..).mp h; cases hk; exact ⟨hr, _, rfl⟩
  | pauseSending f => obtain ⟨hr, rfl⟩ := (setFlag_ok ..).mp h; cases hk; exact ⟨hr, _, rfl⟩
  | removeRemoteTokenMessenger f d =>
    obtain ⟨hr, _, _, rfl⟩ := (removeRemoteTokenMessenger_ok ..).mp h; cases hk; exact ⟨hr, _, rfl⟩
  | unlinkTokenPair f d t l =>
    obtain ⟨hr, _, p, hp, rfl⟩ := (unlinkTokenPair_ok ..).mp h; cases hk
    exact ⟨hr, ⟨.tokenPairUnlinked, [.bytes p.2.2, .nat p.1, .bytes t]⟩, by simp only [writesOf, hp]⟩
  | unpauseBurning f => obtain ⟨hr, rfl⟩ := (setFlag_ok ..).mp h; cases hk; exact ⟨hr, _, rfl⟩
  | unpauseSending f => obtain ⟨hr, rfl⟩ := (setFlag_ok ..).mp h; cases hk; exact ⟨hr, _, rfl⟩
  | updateOwner f n => obtain ⟨hr, _, _, rfl⟩ := (updateOwner_ok ..).mp h; cases hk; exact ⟨hr, _, rfl⟩
  | updateAttesterManager f n => obtain ⟨hr, _, _, _, _, rfl⟩ := (updateRole_ok ..).mp h; cases hk; exact ⟨hr, _, rfl⟩
  | updateTokenController f n => obtain ⟨hr, _, _, _, _, rfl⟩ := (updateRole_ok ..).mp h; cases hk; exact ⟨hr, _, rfl⟩
  | updatePauser f n => obtain ⟨hr, _, _, _, _, rfl⟩ := (updateRole_ok ..).mp h; cases hk; exact ⟨hr, _, rfl⟩
  | updateMaxMessageBodySize f s => obtain ⟨hr, rfl⟩ := (updateMaxMessageBodySize_ok ..).mp h; cases hk; exact ⟨hr, _, rfl⟩
  | setMaxBurnAmountPerMessage f l a =>
    obtain ⟨hr, rfl⟩ := (setMaxBurnAmountPerMessage_ok ..).mp h; cases hk; exact ⟨hr, _, rfl⟩
  | updateSignatureThreshold f a =>
    obtain ⟨hr, _, _, _, rfl⟩ := (updateSignatureThreshold_ok ..).mp h; cases hk; exact ⟨hr, _, rfl⟩
  | _ => cases hk

/-- the three transaction types that call bank / fiat-token-factory. -/
def callsDeps : Msg → Bool
  | .depositForBurn .. | .depositForBurnWithCaller .. | .receiveMessage .. => true
  | _ => false

/-- the writes of every successful call, whatever the transaction type; and every type but those three makes no
    dependency call and leaves the ledger as it was. -/
theorem handle_out (h : handle ext cfg st led m = .ok o) :
    o.writes = writesOf ext st m ∧ (callsDeps m = false → o.deps = [] ∧ o.ledger = led) := by
  have deposit : ∀ {f a d r t c}, depositForBurn ext cfg st led f a d r t c = .ok o → o.writes = [(reserveNonce st).2] := by
    intro f a d r t c h
    obtain ⟨_, _, _, inner, hin, hw⟩ := depositForBurn_inner h
    obtain ⟨_, rfl⟩ := innerSend_out hin
    exact hw
  cases hk : C10.roleKey m with
  | some k => obtain ⟨_, _, rfl⟩ := handle_admin hk h; exact ⟨rfl, fun _ => ⟨rfl, rfl⟩⟩
  | none =>
    cases m with
    | depositForBurn f a d r t => exact ⟨deposit h, fun hc => nomatch hc⟩
    | depositForBurnWithCaller f a d r t c => exact ⟨deposit (depositForBurnWithCaller_deposit h), fun hc => nomatch hc⟩
    | receiveMessage f msg att =>
      obtain ⟨m, _, hp, _, rfl⟩ := receiveMessage_out h
      exact ⟨by simp only [writesOf, hp], fun hc => nomatch hc⟩
    | replaceDepositForBurn f og a c r =>
      obtain ⟨_, inner, _, hin, rfl⟩ := replaceDepositForBurn_inner h
      obtain ⟨_, rfl⟩ := replaceMessage_out hin
      exact ⟨rfl, fun _ => ⟨rfl, rfl⟩⟩
    | replaceMessage f og a b c => obtain ⟨_, rfl⟩ := replaceMessage_out h; exact ⟨rfl, fun _ => ⟨rfl, rfl⟩⟩
    | sendMessage f d r b => obtain ⟨_, rfl⟩ := sendMessage_out h; exact ⟨rfl, fun _ => ⟨rfl, rfl⟩⟩
    | sendMessageWithCaller f d r b c => obtain ⟨_, rfl⟩ := sendMessageWithCaller_out h; exact ⟨rfl, fun _ => ⟨rfl, rfl⟩⟩
    | _ => cases hk

theorem handle_writes (h : handle ext cfg st led m = .ok o) : o.writes = writesOf ext st m := (handle_out h).1

theorem handle_no_deps (hm : callsDeps m = false) (h : handle ext cfg st led m = .ok o) : o.deps = [] ∧ o.ledger = led :=
  (handle_out h).2 hm

end Cctp
