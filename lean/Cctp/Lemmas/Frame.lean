import Cctp.Lemmas.Writes
import Cctp.Lemmas.Store
import Cctp.Lemmas.Keys
import Cctp.Spec.WriteSets
import Cctp.Model.Tx
/-
  `deliver` and `run`: what one delivery is, given the handler's result; frame reasoning by key class (a
  transaction leaves every key outside the classes of its write set untouched); run-level induction.
-/
namespace Cctp
open Cctp.Spec

variable {ext : Ext} {cfg : Cfg} {w : World} {f : List Bool} {m : Msg} {o : Out} {k : Bytes}

theorem deliver_ok (h : handle ext cfg w.store { w.ledger with faults := f } m = .ok o) :
    deliver ext cfg w f m =
      ({ store := w.store.applyAll o.writes, ledger := { o.ledger with faults := [] } },
       { fail := none, resp := o.resp, events := o.events, deps := o.deps, writes := o.writes }) := by
  simp only [deliver, h]

theorem deliver_error {e : Fail} (h : handle ext cfg w.store { w.ledger with faults := f } m = .error e) :
    deliver ext cfg w f m =
      ({ w with ledger := { w.ledger with faults := [] } },
       { fail := some e, resp := .empty, events := [], deps := [], writes := [] }) := by
  simp only [deliver, h]

theorem deliver_store (h : handle ext cfg w.store { w.ledger with faults := f } m = .ok o) :
    (deliver ext cfg w f m).1.store = w.store.applyAll (writesOf ext w.store m) := by
  rw [deliver_ok h, handle_writes h]

theorem deliver_fail_none :
    (deliver ext cfg w f m).2.fail = none ↔ ∃ o, handle ext cfg w.store { w.ledger with faults := f } m = .ok o := by
  cases h : handle ext cfg w.store { w.ledger with faults := f } m with
  | ok o => simp [deliver_ok h]
  | error e => simp [deliver_error h]

theorem deliver_failed (h : (deliver ext cfg w f m).2.fail ≠ none) :
    ∃ e, deliver ext cfg w f m =
      ({ w with ledger := { w.ledger with faults := [] } },
       { fail := some e, resp := .empty, events := [], deps := [], writes := [] }) := by
  cases hh : handle ext cfg w.store { w.ledger with faults := f } m with
  | ok o => exact absurd (deliver_fail_none.mpr ⟨o, hh⟩) h
  | error e => exact ⟨e, deliver_error hh⟩

/-! the store after a delivery: as it was when the transaction failed; one `set` or one `del` when it succeeded and its
    type makes one write (`hw` is `rfl` for a concrete type) -/

theorem deliver_failed_store (h : (deliver ext cfg w f m).2.fail ≠ none) : (deliver ext cfg w f m).1.store = w.store := by
  obtain ⟨e, he⟩ := deliver_failed h
  rw [he]

theorem deliver_store_set {v : Val} (h : handle ext cfg w.store { w.ledger with faults := f } m = .ok o)
    (hw : writesOf ext w.store m = [(k, some v)]) : (deliver ext cfg w f m).1.store = w.store.set k v := by
  rw [deliver_store h, hw]
  rfl

theorem deliver_store_del (h : handle ext cfg w.store { w.ledger with faults := f } m = .ok o)
    (hw : writesOf ext w.store m = [(k, none)]) : (deliver ext cfg w f m).1.store = w.store.del k := by
  rw [deliver_store h, hw]
  rfl

/-- the key classes (see `Key.cls`) a transaction type may write: `Spec.documented` pushed through `Key.cls`
    (`documented_cls`), as a table free of state and `ext`, so that `c ∉ docClasses m` is closed by evaluation. -/
def docClasses : Msg → List Nat
  | .receiveMessage .. => [12]
  | .sendMessage .. | .sendMessageWithCaller .. | .depositForBurn .. | .depositForBurnWithCaller .. => [8]
  | .replaceMessage .. | .replaceDepositForBurn .. => []
  | .acceptOwner _ => [0, 1]
  | .updateOwner .. => [1]
  | .updateAttesterManager .. => [2]
  | .updateTokenController .. => [4]
  | .updatePauser .. => [3]
  | .updateMaxMessageBodySize .. => [7]
  | .addRemoteTokenMessenger .. | .removeRemoteTokenMessenger .. => [14]
  | .enableAttester .. | .disableAttester .. => [10]
  | .updateSignatureThreshold .. => [9]
  | .pauseBurning _ | .unpauseBurning _ => [5]
  | .pauseSending _ | .unpauseSending _ => [6]
  | .linkTokenPair .. | .unlinkTokenPair .. => [13]
  | .setMaxBurnAmountPerMessage .. => [11]

theorem documented_cls (ext : Ext) (m : Msg) : ∀ k ∈ documented ext m, Key.cls k ∈ docClasses m := by
  have h : (documented ext m).all (fun k => (docClasses m).contains (Key.cls k)) = true := by
    cases m with
    | receiveMessage f msg att => simp only [documented]; split <;> rfl
    | _ => rfl
  simpa only [List.all_eq_true, List.contains_iff_mem] using h

/-- the 25 rows of `writesOf`, evaluated once (only the two that depend on a lookup need their cases split first):
    every write stays in the classes of its type — with no hypothesis on the state, also the delete of UnlinkTokenPair —
    and the only entries deleted are the pending owner, an attester, a token pair or a remote token messenger. -/
theorem writesOf_table (ext : Ext) (st : Store) (m : Msg) :
    (writesOf ext st m).all (fun w => (docClasses m).contains (Key.cls w.1) &&
      (w.2.isSome || [1, 10, 13, 14].contains (Key.cls w.1))) = true := by
  cases m with
  | receiveMessage f msg att => simp only [writesOf]; split <;> rfl
  | unlinkTokenPair f d t l => simp only [writesOf]; split <;> rfl
  | _ => rfl

theorem writesOf_cls (ext : Ext) (st : Store) (m : Msg) : ∀ w ∈ writesOf ext st m, Key.cls w.1 ∈ docClasses m := fun w hw =>
  List.contains_iff_mem.mp (Bool.and_eq_true_iff.mp (List.all_eq_true.mp (writesOf_table ext st m) w hw)).1

theorem handle_writes_cls {st : Store} {led : Ledger} (h : handle ext cfg st led m = .ok o) : ∀ w ∈ o.writes, Key.cls w.1 ∈ docClasses m :=
  handle_writes h ▸ writesOf_cls ext st m

/-- classes 1, 10, 13, 14: the pending owner, an attester, a token pair, a remote token messenger. -/
theorem handle_deletes_cls (ext : Ext) (cfg : Cfg) (st : Store) (led : Ledger) (m : Msg) (o : Out)
    (h : handle ext cfg st led m = .ok o) :
    ∀ w ∈ o.writes, w.2 = none → Key.cls w.1 = 1 ∨ Key.cls w.1 = 10 ∨ Key.cls w.1 = 13 ∨ Key.cls w.1 = 14 := by
  intro w hw hn
  have := (Bool.and_eq_true_iff.mp (List.all_eq_true.mp (writesOf_table ext st m) w (handle_writes h ▸ hw))).2
  simpa [hn] using this

/-- for a concrete transaction type and key class the hypothesis is closed by `rfl`. -/
theorem not_mem_of_contains {c : Nat} {l : List Nat} (h : l.contains c = false) : c ∉ l :=
  fun hm => Bool.false_ne_true (h ▸ List.contains_iff_mem.mpr hm)

theorem get_deliver_of_cls (h : Key.cls k ∉ docClasses m) :
    (deliver ext cfg w f m).1.store.get k = w.store.get k := by
  cases hh : handle ext cfg w.store { w.ledger with faults := f } m with
  | ok o =>
    rw [deliver_ok hh]
    exact Store.get_applyAll_other _ _ _ fun wr hwr e => h (e ▸ handle_writes_cls hh wr hwr)
  | error e => rw [deliver_error hh]

/-- a property of every stored entry survives a delivery, if every value its transaction type writes has it: how
    the store invariants (typing, nonce ranges) are preserved. -/
theorem forall_get_deliver {Q : Bytes → Val → Prop}
    (hQ : Store.SetsAll Q (writesOf ext w.store m)) (hwf : w.store.WF) (hs : ∀ k v, w.store.get k = some v → Q k v) :
    ∀ k v, (deliver ext cfg w f m).1.store.get k = some v → Q k v := by
  cases hh : handle ext cfg w.store { w.ledger with faults := f } m with
  | ok o => rw [deliver_store hh]; exact Store.forall_get_applyAll _ hwf hs (Store.setsAll_iff.mp hQ)
  | error e => rw [deliver_error hh]; exact hs

theorem wf_deliver (hwf : w.store.WF) :
    (deliver ext cfg w f m).1.store.WF := by
  cases hh : handle ext cfg w.store { w.ledger with faults := f } m with
  | ok o => rw [deliver_ok hh]; exact Store.wf_applyAll _ _ hwf
  | error e => rw [deliver_error hh]; exact hwf

theorem runState_cons (ext : Ext) (cfg : Cfg) (w : World) (f : List Bool) (m : Msg) (rest : History) :
    runState ext cfg w ((f, m) :: rest) = runState ext cfg (deliver ext cfg w f m).1 rest := by
  simp [runState, run]

theorem run_results_cons (ext : Ext) (cfg : Cfg) (w : World) (f : List Bool) (m : Msg) (rest : History) :
    (run ext cfg w ((f, m) :: rest)).2 = (deliver ext cfg w f m).2 :: (run ext cfg (deliver ext cfg w f m).1 rest).2 := by
  simp [run]

theorem run_append (ext : Ext) (cfg : Cfg) (w : World) (h1 h2 : History) :
    run ext cfg w (h1 ++ h2) =
      ((run ext cfg (run ext cfg w h1).1 h2).1, (run ext cfg w h1).2 ++ (run ext cfg (run ext cfg w h1).1 h2).2) := by
  induction h1 generalizing w with
  | nil => rfl
  | cons fm rest ih => simp only [List.cons_append, run, ih]

theorem runState_append (ext : Ext) (cfg : Cfg) (w : World) (h1 h2 : History) :
    runState ext cfg w (h1 ++ h2) = runState ext cfg (runState ext cfg w h1) h2 :=
  (congrArg Prod.fst (run_append ext cfg w h1 h2) :)

theorem run_inv (ext : Ext) (cfg : Cfg) (P : World → Prop)
    (hstep : ∀ w f m, P w → P (deliver ext cfg w f m).1) :
    ∀ (h : History) (w : World), P w → P (runState ext cfg w h)
  | [], _, hw => hw
  | (f, m) :: rest, w, hw => runState_cons .. ▸ run_inv ext cfg P hstep rest _ (hstep w f m hw)

end Cctp
