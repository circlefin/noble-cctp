import Cctp.Lemmas.Frame
import Cctp.Lemmas.Invariants
/-
  The typing invariant of the store: every stored value sits at a key of its own kind, and the entries
  of the keyed collections sit at the key derived from their own fields.  Preserved by every handler.
-/
namespace Cctp

/-- the keys at which a value of each kind may sit.  (A `.nonce d n` at the next-nonce key has `d` unconstrained: the
    counter is stored as `Nonce{0, n}`, see `reserveNonce`.) -/
def ValOK (ext : Ext) (k : Bytes) : Val → Prop
  | .role _ => k = Key.owner ∨ k = Key.pendingOwner ∨ k = Key.attesterManager ∨ k = Key.pauser ∨ k = Key.tokenController
  | .attester a => k = Key.attester a
  | .limit d _ => k = Key.limit d
  | .flag _ => k = Key.burnPaused ∨ k = Key.sendPaused
  | .size _ => k = Key.maxBody
  | .nonce d n => k = Key.nextNonce ∨ k = Key.usedNonce d n
  | .threshold _ => k = Key.threshold
  | .pair d t _ => k = Key.tokenPair ext d t
  | .messenger d _ => k = Key.messenger d

def Typed (ext : Ext) (st : Store) : Prop := ∀ k v, st.get k = some v → ValOK ext k v

/-- sorted, typed: the shape of every state the module can be in. -/
structure Good (ext : Ext) (st : Store) : Prop where
  wf : st.WF
  typed : Typed ext st

theorem Typed.pairs {ext : Ext} {st : Store} (h : Typed ext st) : PairsConsistent ext st :=
  fun k _ _ _ hg => h k _ hg

/-- the classes of the keys at which a value of each kind may be stored. -/
def Val.classes : Val → List Nat
  | .role _ => [0, 1, 2, 3, 4] | .attester _ => [10] | .limit .. => [11] | .flag _ => [5, 6] | .size _ => [7]
  | .nonce .. => [8, 12] | .threshold _ => [9] | .pair .. => [13] | .messenger .. => [14]

/-- in a well-typed store the class of a key limits the kind of value found there; stated as a Boolean so that, for a
    key of known class, `cases` on it discards the other kinds by evaluation. -/
theorem ValOK.cls_mem {ext : Ext} {k : Bytes} {v : Val} (h : ValOK ext k v) : v.classes.contains (Key.cls k) = true := by
  cases v with
  | role _ => rcases h with rfl | rfl | rfl | rfl | rfl <;> rfl
  | flag _ => rcases h with rfl | rfl <;> rfl
  | nonce _ _ => rcases h with rfl | rfl <;> rfl
  | _ => cases h; rfl

/-- the key an unlink deletes is derived from the stored pair; consistency makes it the key the request names.  This is
    the one place a fact about the hash is used, and it is asked of the one pair looked up: no other token shares its key
    (`TokenKeyInj ext` asks it of every pair and every token length at once — instantiate with `hk d t` — which, by counting,
    a hash with 32-byte digests cannot meet). -/
theorem getPair_token {ext : Ext} {st : Store} {d : Nat} {t : Bytes} {p : Nat × Bytes × Bytes}
    (hc : PairsConsistent ext st) (hk : ∀ d' t', Key.tokenPair ext d t = Key.tokenPair ext d' t' → t = t')
    (h : getPair ext st d t = some p) : p.2.1 = t := by
  unfold getPair at h
  split at h
  · rename_i d' t' l' hget
    cases h
    exact (hk _ _ (hc _ _ _ _ hget)).symm
  · cases h

theorem good_applyAll {ext : Ext} {s : Store} (ws : List Store.Write) (h : Good ext s)
    (hw : ∀ w ∈ ws, ∀ v, w.2 = some v → ValOK ext w.1 v) : Good ext (s.applyAll ws) :=
  ⟨Store.wf_applyAll s ws h.wf, Store.forall_get_applyAll ws h.wf h.typed hw⟩

theorem writesOf_typed (ext : Ext) (st : Store) (m : Msg) : Store.SetsAll (ValOK ext) (writesOf ext st m) := by
  cases m with
  | receiveMessage f msg att =>
    simp only [writesOf]
    split
    · exact ⟨.inr rfl, trivial⟩
    · trivial
  | unlinkTokenPair f d t l => simp only [writesOf]; split <;> trivial
  | updateOwner f n => exact ⟨.inr (.inl rfl), trivial⟩
  | updateAttesterManager f n => exact ⟨.inr (.inr (.inl rfl)), trivial⟩
  | updatePauser f n => exact ⟨.inr (.inr (.inr (.inl rfl))), trivial⟩
  | updateTokenController f n => exact ⟨.inr (.inr (.inr (.inr rfl))), trivial⟩
  -- the value sits at the key built from its own fields …
  | addRemoteTokenMessenger _ _ _ | enableAttester _ _ | linkTokenPair _ _ _ _ | updateMaxMessageBodySize _ _
  | setMaxBurnAmountPerMessage _ _ _ | updateSignatureThreshold _ _ => exact ⟨rfl, trivial⟩
  -- … or at the first of its admissible slots (owner, burn flag, next-nonce counter) …
  | acceptOwner _ | pauseBurning _ | unpauseBurning _ | depositForBurn _ _ _ _ _ | depositForBurnWithCaller _ _ _ _ _ _
  | sendMessage _ _ _ _ | sendMessageWithCaller _ _ _ _ _ => exact ⟨.inl rfl, trivial⟩
  -- … or at the second (send flag); deletes and empty batches have nothing to check
  | pauseSending _ | unpauseSending _ => exact ⟨.inr rfl, trivial⟩
  | disableAttester _ _ | removeRemoteTokenMessenger _ _ | replaceDepositForBurn _ _ _ _ _ | replaceMessage _ _ _ _ _ => trivial

theorem good_deliver (ext : Ext) (cfg : Cfg) (w : World) (f : List Bool) (m : Msg) (h : Good ext w.store) :
    Good ext (deliver ext cfg w f m).1.store :=
  ⟨wf_deliver h.wf, forall_get_deliver (writesOf_typed ext w.store m) h.wf h.typed⟩

theorem good_run (ext : Ext) (cfg : Cfg) (h : History) (w : World) (hg : Good ext w.store) :
    Good ext (runState ext cfg w h).store :=
  run_inv ext cfg (fun w => Good ext w.store) (good_deliver ext cfg) h w hg

/-- run-level induction for an invariant of the store whose step needs the store well typed. -/
theorem run_inv_good {ext : Ext} {cfg : Cfg} (P : Store → Prop)
    (hstep : ∀ w f m, Good ext w.store → P w.store → P (deliver ext cfg w f m).1.store)
    (h : History) (w : World) (hg : Good ext w.store) (hp : P w.store) : P (runState ext cfg w h).store :=
  (run_inv ext cfg (fun w => Good ext w.store ∧ P w.store)
    (fun w f m hw => ⟨good_deliver ext cfg w f m hw.1, hstep w f m hw.1 hw.2⟩) h w ⟨hg, hp⟩).2

theorem good_nil (ext : Ext) : Good ext [] := ⟨trivial, fun k v h => by simp [Store.get] at h⟩

end Cctp
