import Lean.Meta.Tactic.Simp.RegisterCommand
/-
  The simp set `guards` of Lemmas/Result.lean, declared here because an attribute cannot be used in the module
  that registers it.
-/
register_simp_attr guards
