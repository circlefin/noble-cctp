import Cctp.Lemmas.Store
import Cctp.Model.Handlers
/-
  The typed readers of the store (`getRole`, `getFlag`, … of Model/Handlers.lean): each looks at one key and keeps the
  payload of one kind of value.  For those the proofs read through: `getX_some` (what it returns, in terms of
  `Store.get`) and `getX_congr` (it depends on the store only through the entry at its key); reading back a write, or
  past a write elsewhere, is their composition with the `Store` lemmas at the call site (for roles, where it recurs,
  stated as `getRole_set` / `getRole_del`; for the used bit as `isUsed_set`).
-/
namespace Cctp

theorem getRole_some {st : Store} {k r : Bytes} : getRole st k = some r ↔ st.get k = some (.role r) := by
  refine ⟨fun h => ?_, fun h => by rw [getRole, h]⟩
  unfold getRole at h
  split at h <;> cases h
  assumption

theorem getFlag_some {st : Store} {k : Bytes} {b : Bool} : getFlag st k = some b ↔ st.get k = some (.flag b) := by
  refine ⟨fun h => ?_, fun h => by rw [getFlag, h]⟩
  unfold getFlag at h
  split at h <;> cases h
  assumption

theorem getSize_some {st : Store} {n : Nat} : getSize st = some n ↔ st.get Key.maxBody = some (.size n) := by
  refine ⟨fun h => ?_, fun h => by rw [getSize, h]⟩
  unfold getSize at h
  split at h <;> cases h
  assumption

theorem getThreshold_some {st : Store} {n : Nat} : getThreshold st = some n ↔ st.get Key.threshold = some (.threshold n) := by
  refine ⟨fun h => ?_, fun h => by rw [getThreshold, h]⟩
  unfold getThreshold at h
  split at h <;> cases h
  assumption

theorem getNextNonce_some {st : Store} {p : Nat × Nat} :
    getNextNonce st = some p ↔ st.get Key.nextNonce = some (.nonce p.1 p.2) := by
  refine ⟨fun h => ?_, fun h => by rw [getNextNonce, h]⟩
  unfold getNextNonce at h
  split at h <;> cases h
  assumption

theorem getAttester_some {st : Store} {a x : Bytes} : getAttester st a = some x ↔ st.get (Key.attester a) = some (.attester x) := by
  refine ⟨fun h => ?_, fun h => by rw [getAttester, h]⟩
  unfold getAttester at h
  split at h <;> cases h
  assumption

theorem getRole_congr {s1 s2 : Store} {k : Bytes} (h : s1.get k = s2.get k) : getRole s1 k = getRole s2 k := by
  rw [getRole, getRole, h]
theorem getFlag_congr {s1 s2 : Store} {k : Bytes} (h : s1.get k = s2.get k) : getFlag s1 k = getFlag s2 k := by
  rw [getFlag, getFlag, h]
theorem getThreshold_congr {s1 s2 : Store} (h : s1.get Key.threshold = s2.get Key.threshold) :
    getThreshold s1 = getThreshold s2 := by
  rw [getThreshold, getThreshold, h]
theorem getNextNonce_congr {s1 s2 : Store} (h : s1.get Key.nextNonce = s2.get Key.nextNonce) :
    getNextNonce s1 = getNextNonce s2 := by
  rw [getNextNonce, getNextNonce, h]
theorem getAttester_congr {s1 s2 : Store} {a : Bytes} (h : s1.get (Key.attester a) = s2.get (Key.attester a)) :
    getAttester s1 a = getAttester s2 a := by
  rw [getAttester, getAttester, h]
theorem getPair_congr {ext : Ext} {s1 s2 : Store} {d : Nat} {t : Bytes}
    (h : s1.get (Key.tokenPair ext d t) = s2.get (Key.tokenPair ext d t)) : getPair ext s1 d t = getPair ext s2 d t := by
  rw [getPair, getPair, h]
theorem getMessenger_congr {s1 s2 : Store} {d : Nat} (h : s1.get (Key.messenger d) = s2.get (Key.messenger d)) :
    getMessenger s1 d = getMessenger s2 d := by
  rw [getMessenger, getMessenger, h]

theorem getRole_set (s : Store) (k n k' : Bytes) :
    getRole (s.set k (.role n)) k' = if k' = k then some n else getRole s k' := by
  split
  next h => exact h ▸ getRole_some.mpr (Store.get_set_same ..)
  next h => exact getRole_congr (Store.get_set_other _ _ _ _ h)

theorem getRole_del {s : Store} (hwf : s.WF) (k k' : Bytes) :
    getRole (s.del k) k' = if k' = k then none else getRole s k' := by
  split
  next h => rw [h, getRole, Store.get_del_same _ _ hwf]
  next h => exact getRole_congr (Store.get_del_other _ _ _ h)

/-- the used bit after a write: set by a write at the pair's own key, otherwise as before. -/
theorem isUsed_set (st : Store) (k : Bytes) (v : Val) (d n : Nat) :
    isUsed (st.set k v) d n = (isUsed st d n || decide (k = Key.usedNonce d n)) := by
  unfold isUsed Store.has
  by_cases h : k = Key.usedNonce d n
  · rw [h, Store.get_set_same, decide_eq_true rfl, Bool.or_true, Option.isSome_some]
  · rw [Store.get_set_other _ _ _ _ (Ne.symm h), decide_eq_false h, Bool.or_false]

end Cctp
