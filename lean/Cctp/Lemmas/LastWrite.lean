import Cctp.Lemmas.Store
/-
  The store after a batch of writes, key by key: the last write to a key wins.
-/
namespace Cctp

/-- the last write to key `k` in `ws` (`none` = no write names `k`). -/
def lastWrite (ws : List Store.Write) (k : Bytes) : Option (Option Val) :=
  match ws with
  | [] => none
  | w :: rest =>
    match lastWrite rest k with
    | some v => some v
    | none => if w.1 = k then some w.2 else none

theorem lastWrite_cons (w : Store.Write) (rest : List Store.Write) (k : Bytes) :
    lastWrite (w :: rest) k = (lastWrite rest k).or (if w.1 = k then some w.2 else none) := by
  rw [lastWrite]
  cases lastWrite rest k <;> rfl

theorem lastWrite_append (a b : List Store.Write) (k : Bytes) :
    lastWrite (a ++ b) k = (lastWrite b k).or (lastWrite a k) := by
  induction a with
  | nil => exact Option.or_none.symm
  | cons w rest ih => rw [List.cons_append, lastWrite_cons, ih, lastWrite_cons, Option.or_assoc]

/-- segment by segment; the LATER segment's hypothesis comes first, so that a left-nested `++` chain is peeled from its
    last segment by a chain of `<|`. -/
theorem lastWrite_append_congr {a a' b b' : List Store.Write} {k : Bytes} (hb : lastWrite b k = lastWrite b' k)
    (ha : lastWrite a k = lastWrite a' k) : lastWrite (a ++ b) k = lastWrite (a' ++ b') k := by
  rw [lastWrite_append, lastWrite_append, ha, hb]

theorem Store.get_applyAll (s : Store) (ws : List Store.Write) (k : Bytes) (hwf : s.WF) :
    (s.applyAll ws).get k = match lastWrite ws k with | some v => v | none => s.get k := by
  induction ws generalizing s with
  | nil => rfl
  | cons w rest ih =>
    rw [show s.applyAll (w :: rest) = (s.apply w).applyAll rest from rfl, ih _ (Store.wf_apply s w hwf), lastWrite_cons]
    cases lastWrite rest k with
    | some v => rfl
    | none =>
      rw [Store.get_apply s w k hwf, Option.none_or]
      by_cases e : w.1 = k
      · rw [if_pos e, if_pos e.symm]
      · rw [if_neg e, if_neg (Ne.symm e)]

theorem lastWrite_none_of_forall {ws : List Store.Write} {k : Bytes} (h : ∀ w ∈ ws, w.1 ≠ k) : lastWrite ws k = none := by
  induction ws with
  | nil => rfl
  | cons w rest ih =>
    obtain ⟨hw, hrest⟩ := List.forall_mem_cons.mp h
    rw [lastWrite_cons, ih hrest, if_neg hw, Option.or_none]

theorem lastWrite_mem {ws : List Store.Write} {k : Bytes} {v : Option Val} (h : lastWrite ws k = some v) : (k, v) ∈ ws := by
  induction ws with
  | nil => cases h
  | cons w rest ih =>
    rw [lastWrite_cons, Option.or_eq_some_iff] at h
    rcases h with h | ⟨_, h⟩
    · exact List.mem_cons_of_mem _ (ih h)
    · obtain ⟨rfl, hv⟩ := Option.ite_none_right_eq_some.mp h
      cases hv
      exact List.mem_cons_self

theorem lastWrite_of_nodup {ws : List Store.Write} (h : (ws.map (·.1)).Nodup) {w : Store.Write} (hw : w ∈ ws) :
    lastWrite ws w.1 = some w.2 := by
  induction ws with
  | nil => cases hw
  | cons x rest ih =>
    obtain ⟨hx, hrest⟩ := List.nodup_cons.mp h
    rw [lastWrite_cons]
    rcases List.mem_cons.mp hw with rfl | hw'
    · rw [lastWrite_none_of_forall fun y hy e => hx (List.mem_map.mpr ⟨y, hy, e⟩), if_pos rfl, Option.none_or]
    · rw [ih hrest hw', Option.some_or]

theorem lastWrite_eq_some_iff {ws : List Store.Write} (h : (ws.map (·.1)).Nodup) {k : Bytes} {v : Option Val} :
    lastWrite ws k = some v ↔ (k, v) ∈ ws :=
  ⟨lastWrite_mem, lastWrite_of_nodup h⟩

theorem lastWrite_filter (p : Store.Write → Bool) {ws : List Store.Write} {k : Bytes} (h : ∀ w ∈ ws, w.1 = k → p w = true) :
    lastWrite (ws.filter p) k = lastWrite ws k := by
  induction ws with
  | nil => rfl
  | cons w rest ih =>
    obtain ⟨hw, hrest⟩ := List.forall_mem_cons.mp h
    by_cases hp : p w = true
    · rw [List.filter_cons_of_pos hp, lastWrite_cons, lastWrite_cons, ih hrest]
    · rw [List.filter_cons_of_neg hp, lastWrite_cons, ih hrest, if_neg fun e => hp (hw e), Option.or_none]

end Cctp
