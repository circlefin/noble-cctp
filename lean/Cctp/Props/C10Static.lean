import Cctp.Gen.Signers
/-
  C10, the static half: facts regenerated from proto/circle/cctp/v1/tx.proto on every run (tie 1).
-/
namespace Cctp.C10

/-- the submitter the handlers compare with a role is the transaction's signer: every one of the 25 Msg types
    declares `from` as its signer (regenerated from tx.proto on every run; the ante handler that enforces the
    signature is the SDK's and is not modelled). -/
theorem signer_is_from : Gen.signers.length = 25 ∧ (Gen.signers.all fun e => e.2 == "from") = true := by decide +kernel

end Cctp.C10
