import Cctp.Lemmas.Batch
import Cctp.Lemmas.Shapes
import Cctp.Model.Queries
import Cctp.Lemmas.Readers
/-
  C07 — outbound nonces are unique, consecutive and never reused.
  The counter is Go's uint64: `u64 x = x % 2^64` at the one place the code wraps (`nonce + 1`).
-/
namespace Cctp.C07
open Spec

/-- the four producing transaction types. -/
def producer : Msg → Bool
  | .sendMessage .. | .sendMessageWithCaller .. | .depositForBurn .. | .depositForBurnWithCaller .. => true
  | _ => false

/-- the next-available-nonce counter (an absent counter reads as 0, as `ReserveAndIncrementNonce` does). -/
def counter (st : Store) : Nat := curNonce st

theorem counter_eq (st : Store) : counter st = ((getNextNonce st).map (·.2)).getD 0 := by
  unfold counter curNonce reserveNonce
  cases getNextNonce st <;> rfl

theorem counter_congr {s1 s2 : Store} (h : s1.get Key.nextNonce = s2.get Key.nextNonce) : counter s1 = counter s2 := by
  rw [counter_eq, counter_eq, getNextNonce_congr h]

theorem counter_after_write (st : Store) (n : Nat) :
    counter (st.applyAll [(Key.nextNonce, some (.nonce 0 n))]) = n := by
  show counter (st.set Key.nextNonce (.nonce 0 n)) = n
  rw [counter_eq, getNextNonce, Store.get_set_same]
  rfl

/-- what a successful producer returns, writes and emits, whatever the counter holds: the nonce on the wire is the
    counter reduced to its eight bytes. -/
theorem producer_out {ext : Ext} {cfg : Cfg} {st : Store} {led : Ledger} {m : Msg} {o : Out}
    (hp : producer m = true) (h : handle ext cfg st led m = .ok o) :
    o.resp = .nonce (counter st) ∧
    o.writes = [(Key.nextNonce, some (.nonce 0 (u64 (counter st + 1))))] ∧
    ∃ bz msg, Event.messageSent bz ∈ o.events ∧ decodeMessage bz = some msg ∧ msg.nonce = u64 (counter st) := by
  cases m with
  | sendMessage f d r b =>
    obtain ⟨_, _, s, rfl⟩ := sendMessage_shape h
    exact ⟨rfl, rfl, _, _, List.mem_cons_self, s.wire, rfl⟩
  | sendMessageWithCaller f d r b c =>
    obtain ⟨_, _, _, s, rfl⟩ := sendMessageWithCaller_shape h
    exact ⟨rfl, rfl, _, _, List.mem_cons_self, s.wire, rfl⟩
  | depositForBurn f a d r t =>
    obtain ⟨_, _, _, _, _, _, s, rfl⟩ := depositForBurn_shape h
    exact ⟨rfl, rfl, _, _, List.mem_cons_self, s.send.wire, rfl⟩
  | depositForBurnWithCaller f a d r t c =>
    obtain ⟨_, _, _, _, _, _, s, rfl⟩ := depositForBurn_shape (depositForBurnWithCaller_deposit h)
    exact ⟨rfl, rfl, _, _, List.mem_cons_self, s.send.wire, rfl⟩
  | _ => cases hp

/-- what a successful producer returns and emits: the response nonce is the counter value, and the
    MessageSent payload — read with the reference decoder — carries that same nonce. -/
theorem producer_ok_nonce (ext : Ext) (cfg : Cfg) (st : Store) (led : Ledger) (m : Msg) (o : Out)
    (hp : producer m = true) (hc : counter st < 2 ^ 64) (h : handle ext cfg st led m = .ok o) :
    o.resp = .nonce (counter st) ∧
    o.writes = [(Key.nextNonce, some (.nonce 0 (u64 (counter st + 1))))] ∧
    ∃ bz msg, Event.messageSent bz ∈ o.events ∧ decodeMessage bz = some msg ∧ msg.nonce = counter st := by
  obtain ⟨h1, h2, bz, msg, h3, h4, h5⟩ := producer_out hp h
  exact ⟨h1, h2, bz, msg, h3, h4, h5.trans (Nat.mod_eq_of_lt hc)⟩

/-- class 8 is that of the counter key. -/
theorem producer_or_frame (m : Msg) : producer m = true ∨ 8 ∉ docClasses m := by
  cases m with
  | sendMessage | sendMessageWithCaller | depositForBurn | depositForBurnWithCaller => exact .inl rfl
  | _ => exact .inr (not_mem_of_contains rfl)

/-- the counter after one delivery, whatever it held before. -/
theorem counter_deliver (ext : Ext) (cfg : Cfg) (w : World) (f : List Bool) (m : Msg) :
    counter (deliver ext cfg w f m).1.store =
      if producer m = true ∧ (deliver ext cfg w f m).2.fail = none then u64 (counter w.store + 1) else counter w.store := by
  by_cases hp : producer m = true
  · cases hh : handle ext cfg w.store { w.ledger with faults := f } m with
    | ok o =>
      rw [deliver_ok hh, (producer_out hp hh).2.1, if_pos ⟨hp, rfl⟩]
      exact counter_after_write _ _
    | error e => rw [deliver_error hh, if_neg (fun h => nomatch h.2)]
  · rw [if_neg (fun h => hp h.1)]
    exact counter_congr (get_deliver_of_cls ((producer_or_frame m).resolve_left hp))

/-- one delivery: the counter advances by exactly one (mod 2^64) on a successful producer and is
    untouched by everything else — failures (also failures after the reservation inside the handler),
    replacements, receives, administrative transactions. -/
theorem counter_step (ext : Ext) (cfg : Cfg) (w : World) (f : List Bool) (m : Msg) (hc : counter w.store < 2 ^ 64) :
    counter (deliver ext cfg w f m).1.store =
      if producer m = true ∧ (deliver ext cfg w f m).2.fail = none then u64 (counter w.store + 1) else counter w.store :=
  counter_deliver ext cfg w f m

theorem counter_lt_step (ext : Ext) (cfg : Cfg) (w : World) (f : List Bool) (m : Msg) (hc : counter w.store < 2 ^ 64) :
    counter (deliver ext cfg w f m).1.store < 2 ^ 64 := by
  rw [counter_step ext cfg w f m hc]
  split
  · exact Nat.mod_lt _ (Nat.two_pow_pos 64)
  · exact hc

/-- the response nonces of the successful producers of a run, in order. -/
def producerNonces : History → List TxResult → List Nat
  | (_, m) :: h, r :: rs =>
    (if producer m = true ∧ r.fail = none then (match r.resp with | .nonce n => [n] | _ => []) else []) ++ producerNonces h rs
  | _, _ => []

/-- number of successful producers of a run. -/
def successes : History → List TxResult → Nat
  | (_, m) :: h, r :: rs => (if producer m = true ∧ r.fail = none then 1 else 0) + successes h rs
  | _, _ => 0

theorem seq_succ (c s : Nat) :
    (List.range (s + 1)).map (fun i => u64 (c + i)) = u64 c :: (List.range s).map (fun i => u64 (u64 (c + 1) + i)) := by
  rw [List.range_succ_eq_map, List.map_cons, List.map_map]
  exact congrArg _ (List.map_congr_left fun i _ =>
    ((u64_u64_add (c + 1) i).trans (congrArg u64 (Nat.add_right_comm c 1 i))).symm)

/-- **Consecutive nonces.**  Over any history, the k-th successful producer receives nonce
    `start + k − 1` (mod 2^64), and the counter afterwards equals `start + #successes` (mod 2^64). -/
theorem nonce_sequence (ext : Ext) (cfg : Cfg) (h : History) (w : World) (hc : counter w.store < 2 ^ 64) :
    producerNonces h (run ext cfg w h).2
      = (List.range (successes h (run ext cfg w h).2)).map (fun i => u64 (counter w.store + i)) ∧
    counter (runState ext cfg w h).store = u64 (counter w.store + successes h (run ext cfg w h).2) := by
  induction h generalizing w with
  | nil => exact ⟨rfl, (Nat.mod_eq_of_lt hc).symm⟩
  | cons fm rest ih =>
    obtain ⟨f, m⟩ := fm
    obtain ⟨ih1, ih2⟩ := ih (deliver ext cfg w f m).1 (counter_lt_step ext cfg w f m hc)
    rw [run_results_cons, runState_cons, producerNonces, successes, ih1, ih2, counter_step ext cfg w f m hc]
    by_cases hs : producer m = true ∧ (deliver ext cfg w f m).2.fail = none
    · obtain ⟨o, ho⟩ := deliver_fail_none.mp hs.2
      have hresp : (deliver ext cfg w f m).2.resp = .nonce (counter w.store) := by
        rw [deliver_ok ho]
        exact (producer_ok_nonce ext cfg w.store _ m o hs.1 hc ho).1
      have hu : u64 (counter w.store) = counter w.store := Nat.mod_eq_of_lt hc
      -- the response is the counter; `seq_succ` shifts the list of the rest by one, `u64_u64_add` the counter after it
      simp only [if_pos hs, hresp, Nat.add_comm 1, seq_succ, hu, u64_u64_add, Nat.add_assoc, List.singleton_append, and_self]
    · simp only [if_neg hs, Nat.zero_add, List.nil_append, and_self]

/-- **Consecutive nonces over multi-message transactions**: the producers of the committed transactions receive
    `start, start+1, …` in order — several sends inside one transaction get consecutive nonces, and the nonces
    handed out inside a transaction that fails are handed out again — and the counter ends at
    `start + #successful producers in committed transactions`. -/
theorem nonce_sequence_txs (ext : Ext) (cfg : Cfg) (txs : List Txn) (w : World) (hs : w.settle = w)
    (hc : counter w.store < 2 ^ 64) :
    producerNonces (committed ext cfg w txs) (txResults ext cfg w txs)
      = (List.range (successes (committed ext cfg w txs) (txResults ext cfg w txs))).map (fun i => u64 (counter w.store + i)) ∧
    counter (runTxs ext cfg w txs).1.store
      = u64 (counter w.store + successes (committed ext cfg w txs) (txResults ext cfg w txs)) := by
  rw [txResults, runTxs_results ext cfg txs w hs, runTxs_flatten ext cfg txs w hs]
  exact nonce_sequence ext cfg _ w hc

/-- while the counter does not wrap, the nonces handed out are `start, start+1, …` themselves. -/
theorem nonces_eq_range' (ext : Ext) (cfg : Cfg) (h : History) (w : World) (hc : counter w.store < 2 ^ 64)
    (hnowrap : counter w.store + successes h (run ext cfg w h).2 ≤ 2 ^ 64) :
    producerNonces h (run ext cfg w h).2 = List.range' (counter w.store) (successes h (run ext cfg w h).2) := by
  rw [(nonce_sequence ext cfg h w hc).1, List.range'_eq_map_range]
  exact List.map_congr_left fun i hi =>
    Nat.mod_eq_of_lt (Nat.lt_of_lt_of_le (Nat.add_lt_add_left (List.mem_range.mp hi) _) hnowrap)

/-- **No reuse**: while the counter does not wrap (`start + #successes ≤ 2^64`), the nonces handed out are
    pairwise distinct. -/
theorem nonces_distinct (ext : Ext) (cfg : Cfg) (h : History) (w : World) (hc : counter w.store < 2 ^ 64)
    (hnowrap : counter w.store + successes h (run ext cfg w h).2 ≤ 2 ^ 64) :
    (producerNonces h (run ext cfg w h).2).Nodup :=
  nonces_eq_range' ext cfg h w hc hnowrap ▸ List.nodup_range'

/-- the wrap itself: from `2^64 − 1` the next nonce is `0` again (Go's uint64 arithmetic). -/
theorem nonce_wraps : u64 ((2 ^ 64 - 1) + 1) = 0 := by decide

/-- **Failed attempts consume none**: the counter (indeed the whole store) is as before. -/
theorem failure_keeps_counter (ext : Ext) (cfg : Cfg) (w : World) (f : List Bool) (m : Msg)
    (hf : (deliver ext cfg w f m).2.fail ≠ none) : counter (deliver ext cfg w f m).1.store = counter w.store :=
  congrArg counter (deliver_failed_store hf)

/-- a transaction that fails as a whole consumes no nonce, however many of its messages had reserved one. -/
theorem failed_tx_keeps_counter (ext : Ext) (cfg : Cfg) (w : World) (tx : Txn) (h : (deliverTx ext cfg w tx).2 = none) :
    counter (deliverTx ext cfg w tx).1.store = counter w.store := by
  rw [deliverTx_failed ext cfg w tx (deliverTx_none.mp h)]
  rfl

/-- **Replacements never consume a nonce …** -/
theorem replace_keeps_counter (ext : Ext) (cfg : Cfg) (w : World) (f : List Bool) (m : Msg)
    (hm : (∃ a b c d e, m = .replaceMessage a b c d e) ∨ (∃ a b c d e, m = .replaceDepositForBurn a b c d e)) :
    counter (deliver ext cfg w f m).1.store = counter w.store := by
  apply counter_congr
  apply get_deliver_of_cls
  rcases hm with ⟨a, b, c, d, e, rfl⟩ | ⟨a, b, c, d, e, rfl⟩ <;> exact not_mem_of_contains rfl

/-- **… and always reuse the original message's nonce**: the replacement's MessageSent, read with the
    reference decoder, carries the nonce of the original message (also read with the reference decoder). -/
theorem replace_reuses_nonce (ext : Ext) (st : Store) (led : Ledger) (from_ orig att newBody newCaller : Bytes) (o : Out)
    (h : replaceMessage ext st led from_ orig att newBody newCaller = .ok o) :
    ∃ om bz nm, decodeMessage orig = some om ∧ o.events = [Event.messageSent bz] ∧
      decodeMessage bz = some nm ∧ nm.nonce = om.nonce := by
  obtain ⟨t, om, addr, bz, r, rfl⟩ := replaceMessage_shape h
  exact ⟨om, bz, _, r.original, rfl, r.wire, rfl⟩

theorem replace_deposit_reuses_nonce (ext : Ext) (cfg : Cfg) (st : Store) (led : Ledger)
    (from_ orig att newCaller newRcp : Bytes) (o : Out)
    (h : replaceDepositForBurn ext cfg st led from_ orig att newCaller newRcp = .ok o) :
    ∃ om bz nm, decodeMessage orig = some om ∧ Event.messageSent bz ∈ o.events ∧
      decodeMessage bz = some nm ∧ nm.nonce = om.nonce := by
  obtain ⟨t, om, ob, addr, maddr, bz, nbody, r, rfl⟩ := replaceDepositForBurn_shape h
  exact ⟨om, bz, _, r.replace.original, List.mem_cons_self, r.replace.wire, rfl⟩

/-- the next-available-nonce query returns the counter. -/
theorem query_counter (ext : Ext) (st : Store) (d n : Nat) (h : getNextNonce st = some (d, n)) :
    query ext st false .nextAvailableNonce = .ok (.val (.nonce d n)) ∧ counter st = n := by
  constructor
  · unfold query
    simp only [guards, h]
    exact ⟨_, rfl, rfl⟩
  · rw [counter_eq, h]
    rfl

/-! non-vacuity: a stored counter, and the absent counter read as 0 -/
example : counter [(Key.nextNonce, .nonce 0 7)] = 7 := by decide +kernel
example : counter [] = 0 := by decide

end Cctp.C07
