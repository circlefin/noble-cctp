import Cctp.Gen.Schema
import Cctp.Spec.Schema
import Cctp.Lemmas.Utf8
/-
  C20, the static half: the message / query / event / genesis schema regenerated from /repo's generated Go types
  on every run (tie 1) is the one the model and the harness cover field by field.
-/
namespace Cctp.C20

/-- the types whose fields are INPUTS or STATE: transaction messages, query requests, the genesis state, the stored records
    and the two wire messages.  Events and responses are outputs: a new attribute there changes no input space (what the
    properties say about their content is decided by the correspondence on the fields they name). -/
def isInputOrState (name : String) : Bool :=
  (name.startsWith "Msg" && !name.endsWith "Response") || (name.startsWith "Query" && name.endsWith "Request") ||
  ["GenesisState", "Attester", "Nonce", "TokenPair", "PerMessageBurnLimit", "RemoteTokenMessenger", "SignatureThreshold",
   "MaxMessageBodySize", "BurningAndMintingPaused", "SendingAndReceivingMessagesPaused", "Message", "BurnMessage"].contains name

/-- **Every field of every one of the 25 transaction types, 19 query requests, the stored records, the two wire
    messages and the genesis state is one the model knows**: on these types the regenerated schema equals the
    recorded one (field names and Go types). -/
theorem schema_is_modelled :
    (Gen.schema.filter fun e => isInputOrState e.1) = (Spec.expectedSchema.filter fun e => isInputOrState e.1) := by
  -- when the regenerated schema IS the recorded one, as on an unchanged /repo, the two sides are the same term;
  -- otherwise (say an event has gained an attribute) the filtered tables are compared by evaluation
  first
    | exact congrArg _ (rfl : Gen.schema = Spec.expectedSchema)
    | (simp only [isInputOrState, String.startsWith_eq_isPrefixOf, String.endsWith_eq_isSuffixOf]; decide +kernel)

/-- the 25 transaction messages and 19 query requests are all there.  (Nearly all of the cost of this evaluation is the
    kernel turning each type name into bytes; the tests are made on the byte lists because `startsWith` and `endsWith`
    themselves cost it several times as much.) -/
theorem schema_counts :
    (Gen.schema.filter fun e => e.1.startsWith "Msg" && !e.1.endsWith "Response").length = 25 ∧
    (Gen.schema.filter fun e => e.1.startsWith "Query" && e.1.endsWith "Request").length = 19 := by
  simp only [String.startsWith_eq_isPrefixOf, String.endsWith_eq_isSuffixOf]
  decide +kernel

end Cctp.C20
