import Cctp.Lemmas.Batch
import Cctp.Lemmas.Shapes
import Cctp.Lemmas.Ledger
import Cctp.Spec.Toy
/-
  C05 — every outbound burn message is backed by an equal burn.
-/
namespace Cctp.C05
open Cctp.Spec Gen

/-- **A successful deposit took exactly the stated amount of the minting denom from the depositor and
    destroyed it**: the two dependency calls are the transfer depositor → module and the burn in the module's
    name, both of (minting denom, amount); exactly one MessageSent is emitted, its sender is the module,
    and the amount in its burn body is the amount burnt. -/
theorem deposit_ok_calls (ext : Ext) (cfg : Cfg) (st : Store) (led : Ledger) (f : Bytes) (amount : Option Int) (dest : Nat)
    (rcp tok caller : Bytes) (o : Out) (h : depositForBurn ext cfg st led f amount dest rcp tok caller = .ok o) :
    ∃ addr maddr a bz m b, ext.accAddr f = some addr ∧ ext.accAddr cfg.moduleStr = some maddr ∧ amount = some a ∧ 0 < a ∧
      tok = led.mintingDenom ∧
      o.deps = [Dep.transfer addr ModuleName tok a true, Dep.burn cfg.moduleStr tok a true] ∧
      (o.events.filter (fun e => e.kind = .messageSent)) = [Event.messageSent bz] ∧
      decodeMessage bz = some m ∧ m.sender = pad12 maddr ∧ decodeBurn m.body = some b ∧ Int.ofNat b.amount = a ∧
      b.messageSender = pad12 addr := by
  obtain ⟨addr, maddr, a, msgr, bz, body, s, rfl⟩ := depositForBurn_shape h
  obtain ⟨_, hden, _⟩ := (Ledger.burn_ok_iff ..).1 s.burn
  rw [Ledger.transfer_mintingDenom] at hden
  exact ⟨addr, maddr, a, bz, _, _, s.account, s.send.account, s.amount_eq, s.pos, hden, rfl, rfl,
    s.send.wire, rfl, s.burn_wire, Int.toNat_of_nonneg (Int.le_of_lt s.pos), rfl⟩

/-- on the ledger: the depositor's balance drops by the amount, supply drops by the amount, the module
    account ends where it started, and nobody else is touched. -/
theorem deposit_ledger (ext : Ext) (cfg : Cfg) (st : Store) (led : Ledger) (f : Bytes) (amount : Option Int) (dest : Nat)
    (rcp tok caller : Bytes) (o : Out) (h : depositForBurn ext cfg st led f amount dest rcp tok caller = .ok o)
    (addr : Bytes) (ha : ext.accAddr f = some addr) (hne : addr ≠ cfg.moduleAddr) :
    ∃ a : Int, amount = some a ∧ 0 < a ∧
      o.ledger.balance addr tok + a.toNat = led.balance addr tok ∧
      o.ledger.balance cfg.moduleAddr tok = led.balance cfg.moduleAddr tok ∧
      o.ledger.supplyOf tok = led.supplyOf tok - a.toNat ∧
      (∀ a' d', (a', d') ≠ (addr, tok) → (a', d') ≠ (cfg.moduleAddr, tok) → o.ledger.balance a' d' = led.balance a' d') := by
  obtain ⟨addr', maddr, a, msgr, bz, body, s, rfl⟩ := depositForBurn_shape h
  cases ha.symm.trans s.account
  obtain ⟨_, _, hle⟩ := (Ledger.transfer_ok_iff ..).1 s.transfer
  have hne' : (addr, tok) ≠ (cfg.moduleAddr, tok) := fun e => hne (Prod.mk.inj e).1
  refine ⟨a, s.amount_eq, s.pos, ?_, ?_, ?_, ?_⟩
  · rw [Ledger.balance_burn s.burn, if_neg hne', Ledger.balance_transfer s.transfer hne, if_neg hne', if_pos rfl]
    exact Nat.sub_add_cancel hle
  · rw [Ledger.balance_burn s.burn, if_pos rfl, Ledger.balance_transfer s.transfer hne, if_pos rfl]
    exact Nat.add_sub_cancel ..
  · rw [Ledger.supplyOf_burn s.burn, if_pos rfl, Ledger.supplyOf_transfer]
  · intro a' d' h1 h2
    rw [Ledger.balance_burn s.burn, if_neg h2, Ledger.balance_transfer s.transfer hne, if_neg h2, if_neg h1]

/-- **Nothing is left in the module account, and nobody but the depositor is debited**: restated from
    `deposit_ledger` for readability. -/
theorem module_account_unchanged (ext : Ext) (cfg : Cfg) (st : Store) (led : Ledger) (f : Bytes) (amount : Option Int) (dest : Nat)
    (rcp tok caller : Bytes) (o : Out) (h : depositForBurn ext cfg st led f amount dest rcp tok caller = .ok o)
    (addr : Bytes) (ha : ext.accAddr f = some addr) (hne : addr ≠ cfg.moduleAddr) :
    o.ledger.balance cfg.moduleAddr tok = led.balance cfg.moduleAddr tok := by
  obtain ⟨_, _, _, _, hm, _⟩ := deposit_ledger ext cfg st led f amount dest rcp tok caller o h addr ha hne
  exact hm

/-- **No user-chosen field makes the module emit a message whose sender is anyone but the authenticated
    submitter** (the module itself, for deposits): the sender field of every MessageSent is `pad12` of the
    decoded `from` address (sends, replacements) or of the module's own address (deposits, deposit replacements). -/
theorem sender_is_submitter (ext : Ext) (cfg : Cfg) (st : Store) (led : Ledger) (o : Out) :
    (∀ f d r b, handle ext cfg st led (.sendMessage f d r b) = .ok o →
      ∃ addr bz m, ext.accAddr f = some addr ∧ o.events = [Event.messageSent bz] ∧ decodeMessage bz = some m ∧ m.sender = pad12 addr) ∧
    (∀ f d r b c, handle ext cfg st led (.sendMessageWithCaller f d r b c) = .ok o →
      ∃ addr bz m, ext.accAddr f = some addr ∧ o.events = [Event.messageSent bz] ∧ decodeMessage bz = some m ∧ m.sender = pad12 addr) ∧
    (∀ f og a b c, handle ext cfg st led (.replaceMessage f og a b c) = .ok o →
      ∃ addr bz m, ext.accAddr f = some addr ∧ o.events = [Event.messageSent bz] ∧ decodeMessage bz = some m ∧ m.sender = pad12 addr) := by
  refine ⟨fun f d r b h => ?_, fun f d r b c h => ?_, fun f og a b c h => ?_⟩
  · obtain ⟨addr, bz, s, rfl⟩ := sendMessage_shape h
    exact ⟨addr, bz, _, s.account, rfl, s.wire, rfl⟩
  · obtain ⟨_, addr, bz, s, rfl⟩ := sendMessageWithCaller_shape h
    exact ⟨addr, bz, _, s.account, rfl, s.wire, rfl⟩
  · obtain ⟨t, om, addr, bz, r, rfl⟩ := replaceMessage_shape h
    exact ⟨addr, bz, _, r.account, rfl, r.wire, r.sender⟩

/-- a MessageSent whose sender is the module is emitted only by a deposit or by the replacement of a deposit
    (a replacement requires a validly attested original with the same nonce and amount, see C09): for the
    other two emitting types the sender is the submitter, so it is the module only if the submitter IS the
    module account — which has no key and cannot sign a transaction. -/
theorem module_sender_only_from_deposit (ext : Ext) (cfg : Cfg) (st : Store) (led : Ledger) (o : Out) (f : Bytes) (d : Nat) (r b : Bytes)
    (h : handle ext cfg st led (.sendMessage f d r b) = .ok o) (bz : Bytes) (m : Message)
    (hev : Event.messageSent bz ∈ o.events) (hd : decodeMessage bz = some m) (maddr : Bytes)
    (hm : m.sender = pad12 maddr) : ∃ addr, ext.accAddr f = some addr ∧ pad12 addr = pad12 maddr := by
  obtain ⟨addr, bz', m', ha, hev', hd', hs⟩ := (sender_is_submitter ext cfg st led o).1 f d r b h
  rw [hev'] at hev
  cases List.mem_singleton.mp hev
  cases hd.symm.trans hd'
  exact ⟨addr, ha, hs.symm.trans hm⟩

/-- the amount burnt by one transaction result. -/
def burntBy (r : TxResult) : Int := (r.deps.map fun d => match d with | .burn _ _ a _ => a | _ => 0).sum

/-- the amount a deposit request states. -/
def depositAmount : Msg → Int
  | .depositForBurn _ (some a) .. => a
  | .depositForBurnWithCaller _ (some a) .. => a
  | _ => 0

/-- per transaction: what was destroyed through the module equals the stated amount of a successful deposit,
    and is zero for every other transaction (sends, replacements, receives, administrative, failures). -/
theorem burnt_step (ext : Ext) (cfg : Cfg) (w : World) (fl : List Bool) (m : Msg) :
    burntBy (deliver ext cfg w fl m).2 = if (deliver ext cfg w fl m).2.fail = none then depositAmount m else 0 := by
  cases hh : handle ext cfg w.store { w.ledger with faults := fl } m with
  | error e => rw [deliver_error hh]; rfl
  | ok o =>
    rw [deliver_ok hh, if_pos rfl]
    have deposit : ∀ {f a d r t c}, depositForBurn ext cfg w.store { w.ledger with faults := fl } f a d r t c = .ok o →
        ∃ a', a = some a' ∧ burntBy ⟨none, o.resp, o.events, o.deps, o.writes⟩ = a' := fun h => by
      obtain ⟨_, _, a', _, _, _, s, rfl⟩ := depositForBurn_shape h
      exact ⟨a', s.amount_eq, (Int.zero_add _).trans (Int.add_zero a')⟩
    have nodep : callsDeps m = false → burntBy ⟨none, o.resp, o.events, o.deps, o.writes⟩ = 0 :=
      fun hc => by rw [(handle_no_deps hc hh).1]; rfl
    cases m with
    | depositForBurn f a d r t =>
      obtain ⟨a', rfl, hs⟩ := deposit hh
      exact hs
    | depositForBurnWithCaller f a d r t c =>
      obtain ⟨a', rfl, hs⟩ := deposit (depositForBurnWithCaller_deposit hh)
      exact hs
    | receiveMessage f msg att =>
      obtain ⟨m', mo, _, hmo, rfl⟩ := receiveMessage_shape hh
      rcases mintOrSkip_cases hmo with ⟨_, _, _, _, _, _, rfl⟩ | ⟨_, rfl⟩
      · rfl
      · rfl
    | _ => exact nodep rfl

def totalBurnt : List TxResult → Int
  | [] => 0
  | r :: rs => burntBy r + totalBurnt rs

def totalDeposited : History → List TxResult → Int
  | (_, m) :: h, r :: rs => (if r.fail = none then depositAmount m else 0) + totalDeposited h rs
  | _, _ => 0

/-- **Over any history the supply destroyed through the module equals the sum of the amounts of the
    successful deposits** — each of which (C07) carries its own fresh nonce, and whose burn message (above)
    states that same amount; replacements reuse nonce and amount (C09) and burn nothing. -/
theorem burned_eq_sum (ext : Ext) (cfg : Cfg) (h : History) (w : World) :
    totalBurnt (run ext cfg w h).2 = totalDeposited h (run ext cfg w h).2 := by
  induction h generalizing w with
  | nil => rfl
  | cons fm rest ih =>
    obtain ⟨f, m⟩ := fm
    rw [run_results_cons]
    simp only [totalBurnt, totalDeposited, burnt_step, ih]

/-- the same over any list of multi-message transactions. -/
theorem burned_eq_sum_txs (ext : Ext) (cfg : Cfg) (txs : List Txn) (w : World) (hs : w.settle = w) :
    totalBurnt (txResults ext cfg w txs) = totalDeposited (committed ext cfg w txs) (txResults ext cfg w txs) := by
  rw [txResults, runTxs_results ext cfg txs w hs]
  exact burned_eq_sum ext cfg _ w

/-! non-vacuity: a concrete successful deposit (the hypothesis of `deposit_ok_calls` / `deposit_ledger`) and a concrete
    successful send by an ordinary account (the hypothesis of `sender_is_submitter`) -/
example : ∃ o, depositForBurn Toy.ext Toy.cfg Toy.st Toy.led Toy.alice (some 5) 0 (List.replicate 32 9) Toy.denom [] = .ok o :=
  Toy.deposit_ok
example : ∃ o, handle Toy.ext Toy.cfg Toy.st Toy.led Toy.send = .ok o := Toy.send_ok

end Cctp.C05
