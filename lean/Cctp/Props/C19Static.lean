import Cctp.Model.Consts
import Cctp.Gen.Keys
/-
  C19, the static half: the store keys and key prefixes of x/cctp/types regenerated from /repo on every run (tie 1)
  are the byte strings the model's key functions are built from.  Names are compared up to the case of their first letter.
-/
namespace Cctp.C19
open Gen

/-- the keys and prefixes the model uses, with the bytes it uses. -/
def modelledKeys : List (String × Bytes) := [
  ("moduleName", ModuleName),
  ("storeKey", StoreKey),
  ("burningAndMintingPausedKey", BurningAndMintingPausedKey),
  ("maxMessageBodySizeKey", MaxMessageBodySizeKey),
  ("nextAvailableNonceKey", NextAvailableNonceKey),
  ("sendingAndReceivingMessagesPausedKey", SendingAndReceivingMessagesPausedKey),
  ("signatureThresholdKey", SignatureThresholdKey),
  ("attesterKeyPrefix", AttesterKeyPrefix),
  ("perMessageBurnLimitKeyPrefix", PerMessageBurnLimitKeyPrefix),
  ("remoteTokenMessengerKeyPrefix", RemoteTokenMessengerKeyPrefix),
  ("tokenPairKeyPrefix", TokenPairKeyPrefix),
  ("usedNonceKeyPrefix", UsedNonceKeyPrefix),
  ("ownerKey", OwnerKey),
  ("pendingOwnerKey", PendingOwnerKey),
  ("attesterManagerKey", AttesterManagerKey),
  ("pauserKey", PauserKey),
  ("tokenControllerKey", TokenControllerKey)]

/-- **Every store key and prefix the model uses is, byte for byte, the one in the current source.** -/
theorem source_keys_as_modelled :
    (modelledKeys.all fun e => Gen.keyTable.lookup e.1 == some e.2) = true := by decide +kernel

end Cctp.C19
