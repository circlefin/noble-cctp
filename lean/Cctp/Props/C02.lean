import Cctp.Lemmas.Batch
import Cctp.Lemmas.Typed
import Cctp.Lemmas.Wire
import Cctp.Model.Queries
import Cctp.Model.Genesis
import Cctp.Lemmas.Registry
import Cctp.Lemmas.Readers
/-
  C02 — an attested message is consumed at most once.
-/
namespace Cctp.C02
open Gen

/-- the (source domain, nonce) pair a receive names (none if the message has no full header). -/
def recvPair : Msg → Option (Nat × Nat)
  | .receiveMessage _ msg _ =>
    match Message.parse msg with
    | .ok m => some (m.sourceDomain, m.nonce)
    | .error _ => none
  | _ => none

/-- successful receives of pair `p` in a run (history zipped with its results). -/
def successes (p : Nat × Nat) : History → List TxResult → Nat
  | (_, m) :: h, r :: rs => (if recvPair m = some p ∧ r.fail = none then 1 else 0) + successes p h rs
  | _, _ => 0

/-- fixed-width big-endian keys: distinct pairs of uint32 × uint64 have distinct used-nonce keys. -/
theorem usedNonceKey_injective (d n d' n' : Nat) (hd : d < 2 ^ 32) (hn : n < 2 ^ 64) (hd' : d' < 2 ^ 32)
    (hn' : n' < 2 ^ 64) (h : Key.usedNonce d n = Key.usedNonce d' n') : d = d' ∧ n = n' :=
  Cctp.usedNonceKey_injective d n d' n' hd hn hd' hn' h

theorem parsed_in_range {bz : Bytes} {m : Message} (h : Message.parse bz = .ok m) :
    m.sourceDomain < 2 ^ 32 ∧ m.nonce < 2 ^ 64 :=
  ⟨(parse_wf h).2.source, (parse_wf h).2.nonce⟩

/-- class 12 is that of the used-nonce keys. -/
theorem receive_or_frame (m : Msg) :
    (∃ fr msg att, m = .receiveMessage fr msg att) ∨ (recvPair m = none ∧ 12 ∉ docClasses m) := by
  cases m with
  | receiveMessage fr msg att => exact .inl ⟨_, _, _, rfl⟩
  | _ => exact .inr ⟨rfl, not_mem_of_contains rfl⟩

/-- what one delivery does to the "used" bit of an in-range pair: it is set exactly by a successful
    receive naming that pair, and otherwise unchanged. -/
theorem used_step (ext : Ext) (cfg : Cfg) (w : World) (f : List Bool) (m : Msg) (d n : Nat)
    (hd : d < 2 ^ 32) (hn : n < 2 ^ 64) :
    isUsed (deliver ext cfg w f m).1.store d n =
      (isUsed w.store d n || (decide (recvPair m = some (d, n)) && decide ((deliver ext cfg w f m).2.fail = none))) := by
  rcases receive_or_frame m with ⟨fr, msg, att, rfl⟩ | ⟨hr, hc⟩
  · cases hh : handle ext cfg w.store { w.ledger with faults := f } (.receiveMessage fr msg att) with
    | error e => simp only [deliver_error hh, reduceCtorEq, decide_false, Bool.and_false, Bool.or_false]
    | ok o =>
      rw [deliver_ok hh, handle_writes hh]
      cases hp : Message.parse msg with
      | error e =>
        -- cannot happen (the handler parsed the message), but needs no handler reasoning: `writesOf` has `[]` in this row
        unfold writesOf recvPair
        simp only [hp, reduceCtorEq, decide_false, Bool.false_and, Bool.or_false]
        rfl
      | ok m' =>
        obtain ⟨hd', hn'⟩ := parsed_in_range hp
        unfold writesOf recvPair
        simp only [hp, decide_true, Bool.and_true, Option.some.injEq, Prod.mk.injEq]
        exact (isUsed_set ..).trans (congrArg _ (decide_eq_decide.mpr
          ⟨usedNonceKey_injective _ _ d n hd' hn' hd hn, fun ⟨h1, h2⟩ => h1 ▸ h2 ▸ rfl⟩))
  · rw [hr, isUsed, Store.has, get_deliver_of_cls hc]
    exact (Bool.or_false _).symm

/-- A successful receive names an unused pair and marks exactly it. -/
theorem receive_ok_marks (ext : Ext) (cfg : Cfg) (w : World) (f : List Bool) (from_ msg att : Bytes)
    (hok : (deliver ext cfg w f (.receiveMessage from_ msg att)).2.fail = none) :
    ∃ m, Message.parse msg = .ok m ∧ isUsed w.store m.sourceDomain m.nonce = false ∧
      isUsed (deliver ext cfg w f (.receiveMessage from_ msg att)).1.store m.sourceDomain m.nonce = true := by
  obtain ⟨o, ho⟩ := deliver_fail_none.mp hok
  obtain ⟨_, _, _, _, _, m, hp, _, _, _, hu, _⟩ := (receiveMessage_ok ..).mp ho
  refine ⟨m, hp, hu, ?_⟩
  rw [used_step ext cfg w f _ _ _ (parsed_in_range hp).1 (parsed_in_range hp).2, hok]
  simp only [recvPair, hp, decide_true, Bool.and_true, Bool.or_true]

theorem unused_of_success {ext : Ext} {cfg : Cfg} {w : World} {f : List Bool} {m : Msg} {d n : Nat}
    (hp : recvPair m = some (d, n)) (hok : (deliver ext cfg w f m).2.fail = none) : isUsed w.store d n = false := by
  rcases receive_or_frame m with ⟨fr, msg, att, rfl⟩ | ⟨hr, _⟩
  · obtain ⟨m', hm', hfree, _⟩ := receive_ok_marks ext cfg w f fr msg att hok
    simp only [recvPair, hm', Option.some.injEq, Prod.mk.injEq] at hp
    exact hp.1 ▸ hp.2 ▸ hfree
  · exact nomatch hr ▸ hp

theorem used_count_step (ext : Ext) (cfg : Cfg) (w : World) (f : List Bool) (m : Msg) (d n : Nat)
    (hd : d < 2 ^ 32) (hn : n < 2 ^ 64) :
    (if recvPair m = some (d, n) ∧ (deliver ext cfg w f m).2.fail = none then 1 else 0) + (isUsed w.store d n).toNat =
      (isUsed (deliver ext cfg w f m).1.store d n).toNat := by
  rw [used_step ext cfg w f m d n hd hn, ← Bool.decide_and]
  by_cases hs : recvPair m = some (d, n) ∧ (deliver ext cfg w f m).2.fail = none
  · rw [if_pos hs, decide_eq_true hs, unused_of_success hs.1 hs.2]
    rfl
  · rw [if_neg hs, decide_eq_false hs, Bool.or_false, Nat.zero_add]

/-- **The conservation law behind the three clauses below**: over any history, the used bit at the end is the used
    bit at the start plus the number of successful receives of the pair — both sides 0 or 1. -/
theorem used_count (ext : Ext) (cfg : Cfg) (h : History) (w : World) (d n : Nat) (hd : d < 2 ^ 32) (hn : n < 2 ^ 64) :
    successes (d, n) h (run ext cfg w h).2 + (isUsed w.store d n).toNat = (isUsed (runState ext cfg w h).store d n).toNat := by
  induction h generalizing w with
  | nil => exact Nat.zero_add _
  | cons fm rest ih =>
    obtain ⟨f, m⟩ := fm
    rw [run_results_cons, runState_cons, ← ih, ← used_count_step ext cfg w f m d n hd hn, successes, Nat.add_right_comm,
      Nat.add_comm]

/-- what `used_count` says about the two bits: `s` is determined by them, so four cases are left to evaluate. -/
theorem bit_rise {s : Nat} {a b : Bool} (h : s + a.toNat = b.toNat) :
    s ≤ 1 ∧ (a = true → s = 0 ∧ b = true) ∧ (b = true → a = true ∨ 1 ≤ s) := by
  obtain rfl : s = b.toNat - a.toNat := Nat.eq_sub_of_add_eq h
  revert a b
  decide

/-- **A pair reported as used stays used** for the rest of the chain's history. -/
theorem used_monotone (ext : Ext) (cfg : Cfg) (w : World) (h : History) (d n : Nat)
    (hd : d < 2 ^ 32) (hn : n < 2 ^ 64) (hu : isUsed w.store d n = true) :
    isUsed (runState ext cfg w h).store d n = true :=
  ((bit_rise (used_count ext cfg h w d n hd hn)).2.1 hu).2

/-- **At most one receive ever succeeds per (source domain, nonce)** — whatever the bodies, recipients,
    attestations, submitters and interleaved transactions of any type; and none if the pair is already used. -/
theorem at_most_one_success (ext : Ext) (cfg : Cfg) (h : History) (w : World) (d n : Nat)
    (hd : d < 2 ^ 32) (hn : n < 2 ^ 64) :
    successes (d, n) h (run ext cfg w h).2 ≤ 1 ∧
    (isUsed w.store d n = true → successes (d, n) h (run ext cfg w h).2 = 0) :=
  have hc := bit_rise (used_count ext cfg h w d n hd hn)
  ⟨hc.1, fun hu => (hc.2.1 hu).1⟩

/-- **A pair is reported as used only if** the starting state (genesis) listed it **or a receive for it succeeded**. -/
theorem used_only_if (ext : Ext) (cfg : Cfg) (h : History) (w : World) (d n : Nat)
    (hd : d < 2 ^ 32) (hn : n < 2 ^ 64) (hu : isUsed (runState ext cfg w h).store d n = true) :
    isUsed w.store d n = true ∨ 1 ≤ successes (d, n) h (run ext cfg w h).2 :=
  (bit_rise (used_count ext cfg h w d n hd hn)).2.2 hu

/-- **At most one receive per (source domain, nonce) ever takes effect**, over any list of transactions of any
    size — including a transaction that carries the same attested message twice (it fails as a whole). -/
theorem at_most_one_success_txs (ext : Ext) (cfg : Cfg) (txs : List Txn) (w : World) (hs : w.settle = w) (d n : Nat)
    (hd : d < 2 ^ 32) (hn : n < 2 ^ 64) :
    successes (d, n) (committed ext cfg w txs) (txResults ext cfg w txs) ≤ 1 ∧
    (isUsed w.store d n = true → successes (d, n) (committed ext cfg w txs) (txResults ext cfg w txs) = 0) := by
  rw [txResults, runTxs_results ext cfg txs w hs]
  exact at_most_one_success ext cfg _ w d n hd hn

theorem used_monotone_txs (ext : Ext) (cfg : Cfg) (txs : List Txn) (w : World) (hs : w.settle = w) (d n : Nat)
    (hd : d < 2 ^ 32) (hn : n < 2 ^ 64) (hu : isUsed w.store d n = true) :
    isUsed (runTxs ext cfg w txs).1.store d n = true := by
  rw [runTxs_flatten ext cfg txs w hs]
  exact used_monotone ext cfg w _ d n hd hn hu

/-- a pair is used after a list of transactions only if it was used before or a receive for it succeeded in a
    transaction that COMMITTED (a receive inside a transaction that later failed consumes nothing). -/
theorem used_only_if_txs (ext : Ext) (cfg : Cfg) (txs : List Txn) (w : World) (hs : w.settle = w) (d n : Nat)
    (hd : d < 2 ^ 32) (hn : n < 2 ^ 64) (hu : isUsed (runTxs ext cfg w txs).1.store d n = true) :
    isUsed w.store d n = true ∨ 1 ≤ successes (d, n) (committed ext cfg w txs) (txResults ext cfg w txs) := by
  rw [runTxs_flatten ext cfg txs w hs] at hu
  rw [txResults, runTxs_results ext cfg txs w hs]
  exact used_only_if ext cfg _ w d n hd hn hu

/-- The single-item query finds a pair iff it is used. -/
theorem query_used_nonce_iff (ext : Ext) (st : Store) (d n : Nat) :
    query ext st false (.usedNonce d n) = .ok (.val (.nonce d n)) ↔ isUsed st d n = true := by
  unfold query
  simp only [guards]

theorem query_used_nonce_not_found (ext : Ext) (st : Store) (d n : Nat) (h : isUsed st d n = false) :
    query ext st false (.usedNonce d n) = .error .err := by
  unfold query
  simp only [req_bind, h]
  rfl

/-- stored nonce records hold uint32 / uint64 values. -/
def InRange (st : Store) : Prop := ∀ k d n, st.get k = some (.nonce d n) → d < 2 ^ 32 ∧ n < 2 ^ 64

/-- `InRange` of one value, by cases on it, so that it evaluates on the values the handlers write. -/
def NonceInRange : Val → Prop
  | .nonce d n => d < 2 ^ 32 ∧ n < 2 ^ 64
  | _ => True

theorem inRange_iff {st : Store} : InRange st ↔ ∀ k v, st.get k = some v → NonceInRange v :=
  ⟨fun h k v hv => by cases v with | nonce d n => exact h k d n hv | _ => trivial, fun h k d n hv => h k _ hv⟩

/-- every nonce record a handler writes is in range (parsed from fixed-width fields, or `u64` of the counter). -/
theorem nonce_writes_in_range (ext : Ext) (st : Store) (m : Msg) :
    Store.SetsAll (fun _ => NonceInRange) (writesOf ext st m) := by
  cases m with
  | receiveMessage f msg att =>
    simp only [writesOf]
    split
    · next m' hp => exact ⟨parsed_in_range hp, trivial⟩
    · trivial
  | sendMessage | sendMessageWithCaller | depositForBurn | depositForBurnWithCaller =>
    exact ⟨⟨Nat.two_pow_pos 32, Nat.mod_lt _ (Nat.two_pow_pos 64)⟩, trivial⟩
  | unlinkTokenPair f d t l =>
    simp only [writesOf]
    split <;> trivial
  | disableAttester | removeRemoteTokenMessenger | replaceMessage | replaceDepositForBurn => trivial
  | _ => exact ⟨trivial, trivial⟩

theorem inRange_deliver (ext : Ext) (cfg : Cfg) (w : World) (f : List Bool) (m : Msg)
    (hg : Good ext w.store) (hr : InRange w.store) : InRange (deliver ext cfg w f m).1.store :=
  inRange_iff.mpr (forall_get_deliver (nonce_writes_in_range ext _ m) hg.wf (inRange_iff.mp hr))

/-- the exported / listed used nonces are exactly the used pairs (every reachable store is Good and InRange). -/
theorem used_list_exact (ext : Ext) (st : Store) (hg : Good ext st) (hr : InRange st) (d n : Nat)
    (hd : d < 2 ^ 32) (hn : n < 2 ^ 64) :
    (d, n) ∈ Genesis.scanMap st UsedNonceKeyPrefix Genesis.usedOf
      ↔ isUsed st d n = true := by
  refine ((Coll.used ext).mem_scan hg (d, n)).trans ⟨fun h => (Store.has_iff _ _).mpr ⟨_, h⟩, fun hu => ?_⟩
  -- whatever sits at the key is a nonce record (by the class of the key), and then the one for (d, n)
  obtain ⟨v, hv⟩ := (Store.has_iff _ _).mp hu
  have ht := hg.typed _ _ hv
  have hm := Key.cls_usedNonce d n ▸ ht.cls_mem
  cases v with
  | nonce d' n' =>
    obtain ⟨hd', hn'⟩ := hr _ _ _ hv
    obtain ⟨rfl, rfl⟩ := usedNonceKey_injective d n d' n' hd hn hd' hn' (ht.resolve_left (Key.ne_of_cls (by decide : 12 ≠ 8)))
    exact hv
  | _ => cases hm

/-! non-vacuity: a used pair in a concrete store; a pair in range -/
example : isUsed [(Key.usedNonce 3 7, .nonce 3 7)] 3 7 = true := by decide +kernel
example : (3 : Nat) < 2 ^ 32 ∧ (7 : Nat) < 2 ^ 64 := by decide

end Cctp.C02
