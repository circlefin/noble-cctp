import Cctp.Props.C01
import Cctp.Lemmas.Frame
import Cctp.Lemmas.Shapes
/-
  C03 — a message is received exactly when every acceptance condition holds.
  The conditions are phrased with the literal-offset reference decoders of Spec/Layout.lean.
-/
namespace Cctp.C03
open Cctp.Spec

/-- the additional conditions for a message addressed to the CCTP module. -/
def MintOK (ext : Ext) (cfg : Cfg) (st : Store) (led : Ledger) (m : Message) : Prop :=
  burnPaused st = false ∧
  ∃ b pair msgr rcp, decodeBurn m.body = some b ∧ b.version = 0 ∧
    getPair ext st m.sourceDomain b.burnToken = some pair ∧ getMessenger st m.sourceDomain = some msgr ∧
    m.sender = msgr.2 ∧ ext.bech32Enc (b.mintRecipient.drop 12) = some rcp ∧
    (led.mint true (ext.accAddr rcp) (ext.toLower pair.2.2) (Int.ofNat b.amount)).1 = true

/-- every acceptance condition of a receive. -/
structure Accept (ext : Ext) (cfg : Cfg) (st : Store) (led : Ledger) (from_ msg att : Bytes) : Prop where
  receiving_not_paused : sendPaused st = false
  attesters_exist : (attestersOf st).length ≠ 0
  attestation_valid : ∃ t, getThreshold st = some t ∧ ValidAttestation ext msg att (attestersOf st) t
  header : ∃ m, decodeMessage msg = some m ∧ m.destDomain = 4 ∧ m.version = 0 ∧
    (m.caller = zeros 32 ∨ ext.bech32Enc (m.caller.drop 12) = some from_) ∧
    isUsed st m.sourceDomain m.nonce = false ∧
    (m.recipient = cfg.modulePadded → MintOK ext cfg st led m)

theorem mintBranch_ok_iff (ext : Ext) (cfg : Cfg) (st : Store) (led : Ledger) (m : Message) :
    (∃ mo, mintBranch ext cfg st led m = .ok mo) ↔ MintOK ext cfg st led m := by
  constructor
  · rintro ⟨mo, h⟩
    obtain ⟨b, pair, msgr, rcp, s, _⟩ := mintBranch_shape h
    exact ⟨s.unpaused, b, pair, msgr, rcp, s.body, s.version, s.linked, s.messenger, s.sender, s.recipient, s.minted⟩
  · rintro ⟨h1, sb, pair, msgr, rcp, hsb, hv, hp, hm, hs, hr, hmint⟩
    exact ⟨_, (mintBranch_ok ..).mpr ⟨h1, toModel sb, (burn_parse_iff_decode _ _).mpr ⟨sb, hsb, rfl⟩, hv, pair, hp, msgr,
      hm, hs, rcp, hr, hmint, rfl⟩⟩

theorem mintOrSkip_ok_iff (ext : Ext) (cfg : Cfg) (st : Store) (led : Ledger) (m : Message) :
    (∃ mo, mintOrSkip ext cfg st led m = .ok mo) ↔ (m.recipient = cfg.modulePadded → MintOK ext cfg st led m) := by
  unfold mintOrSkip
  split
  · next hrec => rw [mintBranch_ok_iff]; exact ⟨fun h _ => h, fun h => h hrec⟩
  · next hrec => exact ⟨fun _ h => absurd h hrec, fun _ => ⟨_, rfl⟩⟩

/-- **A receive succeeds exactly when every acceptance condition holds** — for every subset of
    conditions made false, every field value realising it, every configuration and every fault plan
    (the fault plan is inside `led`). -/
theorem receive_ok_iff (ext : Ext) (cfg : Cfg) (st : Store) (led : Ledger) (from_ msg att : Bytes)
    (hlen : att.length < 2 ^ 32) :
    (∃ o, handle ext cfg st led (.receiveMessage from_ msg att) = .ok o) ↔ Accept ext cfg st led from_ msg att := by
  constructor
  · rintro ⟨o, h⟩
    obtain ⟨hpause, hatt, t, ht, hsig, m, hp, hdest, hcaller, hver, hused, mo, hmo, _⟩ := (receiveMessage_ok ..).mp h
    exact ⟨hpause, hatt, ⟨t, ht, (C01.verify_ok_iff ext msg att _ t hlen).mp hsig⟩, m, (parse_iff_decode _ _).mp hp,
      hdest, hver, hcaller, hused, (mintOrSkip_ok_iff ..).mp ⟨mo, hmo⟩⟩
  · rintro ⟨hpause, hatt, ⟨t, ht, hsig⟩, m, hd, hdest, hver, hcaller, hused, hmint⟩
    obtain ⟨mo, hmo⟩ := (mintOrSkip_ok_iff ..).mpr hmint
    exact ⟨_, (receiveMessage_ok ..).mpr ⟨hpause, hatt, t, ht, (C01.verify_ok_iff ext msg att _ t hlen).mpr hsig, m,
      (parse_iff_decode _ _).mpr hd, hdest, hcaller, hver, hused, mo, hmo, rfl⟩⟩

/-- the same statement at the transaction level (with an arbitrary fault plan). -/
theorem deliver_receive_ok_iff (ext : Ext) (cfg : Cfg) (w : World) (f : List Bool) (from_ msg att : Bytes)
    (hlen : att.length < 2 ^ 32) :
    (deliver ext cfg w f (.receiveMessage from_ msg att)).2.fail = none ↔
      Accept ext cfg w.store { w.ledger with faults := f } from_ msg att := by
  rw [← receive_ok_iff ext cfg w.store _ from_ msg att hlen]
  exact deliver_fail_none

/-- **Violating any condition** — in any combination with the others — **makes it fail with no mint and
    no nonce consumed**: store (hence the used-nonce set), ledger and events are exactly as before, and
    the transaction reports no dependency call. -/
theorem receive_not_ok_no_effect (ext : Ext) (cfg : Cfg) (w : World) (f : List Bool) (from_ msg att : Bytes)
    (hlen : att.length < 2 ^ 32) (hno : ¬ Accept ext cfg w.store { w.ledger with faults := f } from_ msg att) :
    let r := deliver ext cfg w f (.receiveMessage from_ msg att)
    r.2.fail ≠ none ∧ r.1.store = w.store ∧ r.1.ledger = { w.ledger with faults := [] } ∧ r.2.events = [] ∧ r.2.deps = [] := by
  have hf : (deliver ext cfg w f (.receiveMessage from_ msg att)).2.fail ≠ none :=
    fun h => hno ((deliver_receive_ok_iff ext cfg w f from_ msg att hlen).mp h)
  obtain ⟨e, he⟩ := deliver_failed hf
  rw [he] at hf ⊢
  exact ⟨hf, rfl, rfl, rfl, rfl⟩

/-- the handler marks the nonce before it validates the burn message — which is why the rollback of
    C14 matters; recorded so the dependency is visible. -/
theorem receive_marks_before_validation (ext : Ext) (cfg : Cfg) (st : Store) (led : Ledger) (f msg att : Bytes) (o : Out)
    (h : handle ext cfg st led (.receiveMessage f msg att) = .ok o) :
    ∃ m, decodeMessage msg = some m ∧
      o.writes = [(Key.usedNonce m.sourceDomain m.nonce, some (.nonce m.sourceDomain m.nonce))] := by
  obtain ⟨m, _, hd, _, rfl⟩ := receiveMessage_shape h
  exact ⟨m, hd, rfl⟩

/-! ### non-vacuity: concrete accepted and rejected receives -/

/-- a toy world: "recovery" returns the first two signature bytes, bech32 is the identity. -/
def toyExt : Ext := ⟨fun b => zeros 12 ++ b, fun _ sig => some (sig.take 2), fun b => some b, fun b => some b, id,
  fun a b => a == b, fun _ => true, id⟩
def toyCfg : Cfg := ⟨List.replicate 20 7, [99]⟩
def toyLed : Ledger := ⟨[117], [], [], []⟩

/-- one enabled attester (hex "0101"), threshold 1, nothing paused, a messenger and a token pair for domain 0. -/
def toySt : Store :=
  Store.applyAll []
    [(Key.sendPaused, some (.flag false)), (Key.burnPaused, some (.flag false)), (Key.threshold, some (.threshold 1)),
     (Key.attester [48, 49, 48, 49], some (.attester [48, 49, 48, 49])),
     (Key.messenger 0, some (.messenger 0 (List.replicate 32 5))),
     (Key.tokenPair toyExt 0 (List.replicate 32 6), some (.pair 0 (List.replicate 32 6) [117]))]

/-- a message for somebody else (recipient 32×3), nonce 7, no destination caller, empty body. -/
def toyMsg : Bytes := encodeMessage ⟨0, 0, 4, 7, List.replicate 32 2, List.replicate 32 3, zeros 32, []⟩
/-- a burn message for the module: token 32×6, recipient 12 zeros ++ 20×8, amount 1000, from the registered messenger. -/
def toyBurn : Bytes :=
  encodeMessage ⟨0, 0, 4, 8, List.replicate 32 5, toyCfg.modulePadded, zeros 32,
    encodeBurn ⟨0, List.replicate 32 6, zeros 12 ++ List.replicate 20 8, 1000, List.replicate 32 9⟩⟩

def isOk {α} (r : R α) : Bool := match r with | .ok _ => true | .error _ => false
theorem isOk_iff {α} (r : R α) : isOk r = true ↔ ∃ o, r = .ok o := by
  cases r <;> simp [isOk]

/-- in the toy world acceptance is decided by running the handler. -/
theorem toy_accept_iff (st : Store) (msg : Bytes) (b : UInt8) :
    Accept toyExt toyCfg st toyLed [1] msg (List.replicate 65 b) ↔
      isOk (handle toyExt toyCfg st toyLed (.receiveMessage [1] msg (List.replicate 65 b))) = true :=
  (receive_ok_iff (hlen := by rw [List.length_replicate]; decide) ..).symm.trans (isOk_iff _).symm

example : Accept toyExt toyCfg toySt toyLed [1] toyMsg (List.replicate 65 1) :=
  (toy_accept_iff ..).mpr (by decide +kernel)
/-- … and an accepted mint (all of `MintOK` holds). -/
example : Accept toyExt toyCfg toySt toyLed [1] toyBurn (List.replicate 65 1) :=
  (toy_accept_iff ..).mpr (by decide +kernel)
/-- the same messages are refused when signed by a key that is not enabled, and when receiving is paused. -/
example : ¬ Accept toyExt toyCfg toySt toyLed [1] toyMsg (List.replicate 65 2) :=
  mt (toy_accept_iff ..).mp (by decide +kernel)
example : ¬ Accept toyExt toyCfg (toySt.set Key.sendPaused (.flag true)) toyLed [1] toyBurn (List.replicate 65 1) :=
  mt (toy_accept_iff ..).mp (by decide +kernel)

end Cctp.C03
