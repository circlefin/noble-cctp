import Cctp.Gen.WriteSets
/-
  C15, the static half: facts regenerated from /repo's static call graph on every run (tie 1).  Kept in a
  module of its own, imported by nothing and importing no proof, so that a change which only defeats the
  extractor's resolution breaks this obligation and no other property's build.
-/
namespace Cctp.C15

/-- documented store-key classes per entry point, by the names of the key constants in types/keys.go (compared up to
    the case of their first letter). -/
def documentedClasses : String → List String
  | "msg:ReceiveMessage" => ["usedNonceKeyPrefix"]
  | "msg:SendMessage" | "msg:SendMessageWithCaller" | "msg:DepositForBurn" | "msg:DepositForBurnWithCaller" => ["nextAvailableNonceKey"]
  | "msg:ReplaceMessage" | "msg:ReplaceDepositForBurn" => []
  | "msg:AcceptOwner" => ["ownerKey", "pendingOwnerKey"]
  | "msg:UpdateOwner" => ["pendingOwnerKey"]
  | "msg:UpdateAttesterManager" => ["attesterManagerKey"]
  | "msg:UpdatePauser" => ["pauserKey"]
  | "msg:UpdateTokenController" => ["tokenControllerKey"]
  | "msg:UpdateMaxMessageBodySize" => ["maxMessageBodySizeKey"]
  | "msg:AddRemoteTokenMessenger" | "msg:RemoveRemoteTokenMessenger" => ["remoteTokenMessengerKeyPrefix"]
  | "msg:EnableAttester" | "msg:DisableAttester" => ["attesterKeyPrefix"]
  | "msg:UpdateSignatureThreshold" => ["signatureThresholdKey"]
  | "msg:PauseBurningAndMinting" | "msg:UnpauseBurningAndMinting" => ["burningAndMintingPausedKey"]
  | "msg:PauseSendingAndReceivingMessages" | "msg:UnpauseSendingAndReceivingMessages" => ["sendingAndReceivingMessagesPausedKey"]
  | "msg:LinkTokenPair" | "msg:UnlinkTokenPair" => ["tokenPairKeyPrefix"]
  | "msg:SetMaxBurnAmountPerMessage" => ["perMessageBurnLimitKeyPrefix"]
  | "func:InitGenesis" => ["attesterKeyPrefix", "attesterManagerKey", "burningAndMintingPausedKey", "maxMessageBodySizeKey",
      "nextAvailableNonceKey", "ownerKey", "pauserKey", "perMessageBurnLimitKeyPrefix", "remoteTokenMessengerKeyPrefix",
      "sendingAndReceivingMessagesPausedKey", "signatureThresholdKey", "tokenControllerKey", "tokenPairKeyPrefix", "usedNonceKeyPrefix"]
  | _ => []   -- queries, ExportGenesis and anything new: nothing

/-- **For every code path**: the store-key classes that any function reachable from a handler (in the static
    call graph regenerated from the current source) can Set or Delete lie within the documented classes of
    that handler; in particular no write resolves to an unknown key class. -/
theorem static_writes_within_documented :
    (Gen.writeSets.all fun e => e.2.all fun c => (documentedClasses e.1).contains c) = true := by decide +kernel

/-- **Queries and genesis export write nothing**, statically: no Set/Delete is reachable from any of the 19
    query methods or from ExportGenesis. -/
theorem queries_and_export_write_nothing :
    (["keeper:Attester", "keeper:Attesters", "keeper:BurnMessageVersion", "keeper:BurningAndMintingPaused", "keeper:LocalDomain",
      "keeper:LocalMessageVersion", "keeper:MaxMessageBodySize", "keeper:NextAvailableNonce", "keeper:PerMessageBurnLimit",
      "keeper:PerMessageBurnLimits", "keeper:RemoteTokenMessenger", "keeper:RemoteTokenMessengers", "keeper:Roles",
      "keeper:SendingAndReceivingMessagesPaused", "keeper:SignatureThreshold", "keeper:TokenPair", "keeper:TokenPairs",
      "keeper:UsedNonce", "keeper:UsedNonces", "func:ExportGenesis"].all fun n => Gen.writeSets.lookup n == some []) = true := by
  decide +kernel

/-- all 25 transaction handlers, 19 queries and the two genesis functions were found by the extractor. -/
theorem entry_points_complete : Gen.writeSets.length = 46 := by decide +kernel

end Cctp.C15
