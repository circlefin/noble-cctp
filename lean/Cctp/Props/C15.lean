import Cctp.Lemmas.Typed
import Cctp.Model.Queries
import Cctp.Model.Genesis
/-
  C15 — each transaction touches only the state it is documented to change.
-/
namespace Cctp.C15
open Cctp.Spec

theorem adminOut_writes (led : Ledger) (ws : List Store.Write) (ev : Event) : (adminOut led ws ev).writes = ws := rfl

/-- **Write-set confinement.**  Whatever a successful handler call writes or deletes lies in the
    documented write set of its transaction type, for every state, ledger and input. -/
theorem writes_within_documented (ext : Ext) (cfg : Cfg) (st : Store) (led : Ledger) (m : Msg) (o : Out)
    (hc : PairsConsistent ext st) (hk : TokenKeyInj ext) (h : handle ext cfg st led m = .ok o) :
    ∀ w ∈ o.writes, w.1 ∈ documented ext m := by
  rw [handle_writes h]
  -- `(writesOf ext st m).map Prod.fst` evaluates to `documented ext m` itself, so membership in the one is (by
  -- `forall_mem_map`) membership in the other; an unlink takes its key from the stored pair
  cases m with
  | unlinkTokenPair f d t l =>
    simp only [writesOf]
    split
    next p hp =>
      rw [getPair_token hc (hk d t) hp]
      exact List.forall_mem_map.mp fun _ h => h
    next => exact fun _ h => nomatch h
  | receiveMessage f msg att =>
    simp only [writesOf, documented]
    cases Message.parse msg <;> exact List.forall_mem_map.mp fun _ h => h
  | _ => exact List.forall_mem_map.mp fun _ h => h

/-- Replacements write nothing at all — handler level, not merely after a rollback. -/
theorem replacements_write_nothing (ext : Ext) (cfg : Cfg) (st : Store) (led : Ledger) (o : Out) :
    (∀ f o' a b c, handle ext cfg st led (.replaceMessage f o' a b c) = .ok o → o.writes = []) ∧
    (∀ f o' a c r, handle ext cfg st led (.replaceDepositForBurn f o' a c r) = .ok o → o.writes = []) :=
  ⟨fun _ _ _ _ _ h => handle_writes h, fun _ _ _ _ _ h => handle_writes h⟩

/-- A failed transaction commits nothing: store and ledger after `deliver` are the ones before. -/
theorem failed_tx_commits_nothing (ext : Ext) (cfg : Cfg) (w : World) (faults : List Bool) (m : Msg)
    (h : (deliver ext cfg w faults m).2.fail ≠ none) :
    (deliver ext cfg w faults m).1.store = w.store ∧
    (deliver ext cfg w faults m).1.ledger = { w.ledger with faults := [] } ∧
    (deliver ext cfg w faults m).2.events = [] ∧ (deliver ext cfg w faults m).2.writes = [] := by
  obtain ⟨e, he⟩ := deliver_failed h
  rw [he]
  exact ⟨rfl, rfl, rfl, rfl⟩

/-- The state after a transaction differs from the state before only inside the documented write set. -/
theorem untouched_outside_documented (ext : Ext) (cfg : Cfg) (w : World) (faults : List Bool) (m : Msg)
    (hc : PairsConsistent ext w.store) (hinj : TokenKeyInj ext) (k : Bytes) (hk : k ∉ documented ext m) :
    (deliver ext cfg w faults m).1.store.get k = w.store.get k := by
  cases hh : handle ext cfg w.store { w.ledger with faults := faults } m with
  | ok o =>
    rw [deliver_ok hh]
    exact Store.get_applyAll_other _ _ _ fun wr hwr e => hk (e ▸ writes_within_documented ext cfg _ _ m o hc hinj hh wr hwr)
  | error e => rw [deliver_error hh]

/-- Queries and genesis export are functions of the store that return no store: they cannot write.
    (Stated as: their result type carries no state; recorded here so the claim is visible.) -/
theorem queries_and_export_are_pure (ext : Ext) (st : Store) (nilReq : Bool) (q : Query) :
    ∃ r : R QResp, query ext st nilReq q = r ∧ ∃ g : R Genesis, Genesis.exportG st = g := ⟨_, rfl, _, rfl⟩

/-! non-vacuity: a concrete successful pause writes exactly the burn flag, which is documented -/
example : ∃ o, handle ⟨id, fun _ _ => none, fun _ => none, fun _ => none, id, fun _ _ => false, fun _ => false, id⟩
      ⟨[], []⟩ [(Key.pauser, .role [1])] ⟨[], [], [], []⟩ (.pauseBurning [1]) = .ok o ∧
      o.writes = [(Key.burnPaused, some (.flag true))] :=
  ⟨_, rfl, rfl⟩

end Cctp.C15
