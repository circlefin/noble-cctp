import Cctp.Lemmas.Batch
import Cctp.Lemmas.Shapes
import Cctp.Lemmas.Ledger
import Cctp.Spec.Toy
/-
  C04 — every accepted burn message mints exactly what it says, once.
-/
namespace Cctp.C04
open Cctp.Spec

/-- **A successful receive of a module-addressed message causes exactly one mint**: of the 256-bit
    big-endian amount of the burn body, in the lower-cased local denom linked to (source domain, burn token),
    to the bech32 form of the LOW 20 bytes of the mint-recipient field, requested in the module's own name;
    and the two events report those same values. -/
theorem receive_module_mints_exactly (ext : Ext) (cfg : Cfg) (st : Store) (led : Ledger) (from_ msg att : Bytes) (o : Out)
    (h : handle ext cfg st led (.receiveMessage from_ msg att) = .ok o) (m : Message) (hd : decodeMessage msg = some m)
    (hrec : m.recipient = cfg.modulePadded) :
    ∃ b pair rcp, decodeBurn m.body = some b ∧ getPair ext st m.sourceDomain b.burnToken = some pair ∧
      ext.bech32Enc (b.mintRecipient.drop 12) = some rcp ∧ (b.mintRecipient.drop 12).length = 20 ∧
      o.deps = [Dep.mint cfg.moduleStr rcp (ext.toLower pair.2.2) (Int.ofNat b.amount) true] ∧
      o.events = [Event.mintAndWithdraw b.mintRecipient (Int.ofNat b.amount) (ext.toLower pair.2.2),
                  Event.messageReceived from_ m.sourceDomain m.nonce m.sender m.body] ∧
      o.ledger = (led.mint true (ext.accAddr rcp) (ext.toLower pair.2.2) (Int.ofNat b.amount)).2 ∧
      b.amount < 2 ^ 256 := by
  obtain ⟨b, pair, msgr, rcp, s, rfl⟩ := receive_module_shape h hd hrec
  exact ⟨b, pair, rcp, s.body, s.linked, s.recipient, by rw [List.length_drop, s.wf.recipient], rfl, rfl, rfl, s.wf.amount⟩

/-- a receive of a message NOT addressed to the module mints nothing (and its only event is MessageReceived). -/
theorem receive_other_mints_nothing (ext : Ext) (cfg : Cfg) (st : Store) (led : Ledger) (from_ msg att : Bytes) (o : Out)
    (h : handle ext cfg st led (.receiveMessage from_ msg att) = .ok o) (m : Message) (hd : decodeMessage msg = some m)
    (hrec : m.recipient ≠ cfg.modulePadded) :
    o.deps = [] ∧ o.ledger = led ∧
    o.events = [Event.messageReceived from_ m.sourceDomain m.nonce m.sender m.body] := by
  obtain ⟨m', mo, hd', hmo, rfl⟩ := receiveMessage_shape h
  cases hd.symm.trans hd'
  cases (mintOrSkip_other hrec).symm.trans hmo
  exact ⟨rfl, rfl, rfl⟩

def isMint : Dep → Bool
  | .mint .. => true
  | _ => false

/-- **Every other transaction type mints nothing.** -/
theorem no_other_mint (ext : Ext) (cfg : Cfg) (st : Store) (led : Ledger) (m : Msg) (o : Out)
    (hm : ∀ f msg att, m ≠ .receiveMessage f msg att) (h : handle ext cfg st led m = .ok o) :
    ∀ d ∈ o.deps, isMint d = false := by
  have deposit : ∀ {f a d r t c}, depositForBurn ext cfg st led f a d r t c = .ok o → ∀ d ∈ o.deps, isMint d = false :=
    fun h => by
      obtain ⟨_, _, _, _, _, _, _, rfl⟩ := depositForBurn_shape h
      exact List.forall_mem_cons.mpr ⟨rfl, List.forall_mem_singleton.mpr rfl⟩
  have nodep : callsDeps m = false → ∀ d ∈ o.deps, isMint d = false :=
    fun hc => by rw [(handle_no_deps hc h).1]; exact fun _ hd => nomatch hd
  cases m with
  | receiveMessage f msg att => exact absurd rfl (hm f msg att)
  | depositForBurn f a d r t => exact deposit h
  | depositForBurnWithCaller f a d r t c => exact deposit (depositForBurnWithCaller_deposit h)
  | _ => exact nodep rfl

/-- the amount minted by one transaction result (failed transactions report no dependency call). -/
def mintedBy (r : TxResult) : Int := (r.deps.map fun d => match d with | .mint _ _ _ a _ => a | _ => 0).sum

/-- the amount stated by the burn body of a module-addressed message (0 for everything else). -/
def statedAmount (cfg : Cfg) : Msg → Int
  | .receiveMessage _ msg _ =>
    match decodeMessage msg with
    | some m => if m.recipient = cfg.modulePadded then
        (match decodeBurn m.body with | some b => Int.ofNat b.amount | none => 0) else 0
    | none => 0
  | _ => 0

theorem mintedBy_eq_zero (r : TxResult) (h : ∀ d ∈ r.deps, isMint d = false) : mintedBy r = 0 := by
  unfold mintedBy
  generalize r.deps = ds at h ⊢
  induction ds with
  | nil => rfl
  | cons d ds ih =>
    cases d with
    | mint => cases h _ List.mem_cons_self
    | _ => exact (Int.zero_add _).trans (ih fun d hd => h d (List.mem_cons_of_mem _ hd))

/-- one transaction mints exactly the stated amount of its burn message if it is a successful receive,
    and nothing otherwise. -/
theorem minted_step (ext : Ext) (cfg : Cfg) (w : World) (f : List Bool) (m : Msg) :
    mintedBy (deliver ext cfg w f m).2 = if (deliver ext cfg w f m).2.fail = none then statedAmount cfg m else 0 := by
  cases hh : handle ext cfg w.store { w.ledger with faults := f } m with
  | error e => rw [deliver_error hh]; rfl
  | ok o =>
    rw [deliver_ok hh, if_pos rfl]
    unfold statedAmount
    split
    · next fr msg att =>
      obtain ⟨m', mo, hd, hmo, rfl⟩ := receiveMessage_shape hh
      simp only [hd]
      rcases mintOrSkip_cases hmo with ⟨hrec, b, _, _, _, s, rfl⟩ | ⟨hrec, rfl⟩
      · rw [if_pos hrec, s.body]
        exact Int.add_zero _
      · rw [if_neg hrec]; rfl
    · next hne => exact mintedBy_eq_zero _ (no_other_mint ext cfg _ _ m o hne hh)

def totalMinted : List TxResult → Int
  | [] => 0
  | r :: rs => mintedBy r + totalMinted rs

def totalStated (cfg : Cfg) : History → List TxResult → Int
  | (_, m) :: h, r :: rs => (if r.fail = none then statedAmount cfg m else 0) + totalStated cfg h rs
  | _, _ => 0

/-- **Conservation over any history**: total minted = the sum, over the successful receives of the history
    (which C02 shows are for pairwise distinct (source domain, nonce) pairs), of the amounts their burn
    messages state. -/
theorem total_minted_eq_sum (ext : Ext) (cfg : Cfg) (h : History) (w : World) :
    totalMinted (run ext cfg w h).2 = totalStated cfg h (run ext cfg w h).2 := by
  induction h generalizing w with
  | nil => rfl
  | cons fm rest ih =>
    obtain ⟨f, m⟩ := fm
    rw [run_results_cons]
    simp only [totalMinted, totalStated, minted_step, ih]

/-- conservation over any list of multi-message transactions: what the committed transactions minted is the sum
    of the amounts their accepted burn messages state (a mint inside a transaction that fails later is undone
    with it and is not counted on either side). -/
theorem total_minted_eq_sum_txs (ext : Ext) (cfg : Cfg) (txs : List Txn) (w : World) (hs : w.settle = w) :
    totalMinted (txResults ext cfg w txs) = totalStated cfg (committed ext cfg w txs) (txResults ext cfg w txs) := by
  rw [txResults, runTxs_results ext cfg txs w hs]
  exact total_minted_eq_sum ext cfg _ w

/-- on the ledger, a successful module-addressed receive credits exactly the recipient account with
    exactly the stated amount and raises supply by the same; nobody else's balance changes. -/
theorem receive_ledger_effect (ext : Ext) (cfg : Cfg) (st : Store) (led : Ledger) (from_ msg att : Bytes) (o : Out)
    (h : handle ext cfg st led (.receiveMessage from_ msg att) = .ok o) (m : Message) (hd : decodeMessage msg = some m)
    (hrec : m.recipient = cfg.modulePadded) :
    ∃ b rcp acct, decodeBurn m.body = some b ∧ ext.bech32Enc (b.mintRecipient.drop 12) = some rcp ∧
      ext.accAddr rcp = some acct ∧
      o.ledger.balance acct led.mintingDenom = led.balance acct led.mintingDenom + b.amount ∧
      o.ledger.supplyOf led.mintingDenom = led.supplyOf led.mintingDenom + b.amount ∧
      (∀ a' d', (a', d') ≠ (acct, led.mintingDenom) → o.ledger.balance a' d' = led.balance a' d') := by
  obtain ⟨b, pair, msgr, rcp, s, rfl⟩ := receive_module_shape h hd hrec
  obtain ⟨acct, hacct, _, hden, _⟩ := (Ledger.mint_ok_iff ..).1 s.minted
  have hm := s.minted
  rw [hacct] at hm
  refine ⟨b, rcp, acct, s.body, s.recipient, hacct, ?_⟩
  rw [mintOut, hacct, ← hden]
  refine ⟨?_, ?_, ?_⟩
  · rw [Ledger.balance_mint hm, if_pos rfl]; rfl
  · rw [Ledger.supplyOf_mint hm, if_pos rfl]; rfl
  · intro a' d' hne; rw [Ledger.balance_mint hm, if_neg hne]

/-! an amount above 2^255 (top bit set in the 32-byte field) is a positive `Int`, not a negative one -/
example : (Int.ofNat (2 ^ 255 + 5) : Int) > 0 := by decide

/-! non-vacuity: in the toy world of Spec/Toy.lean an attested burn message for the module is received (and minted) -/
example : ∃ o, handle Toy.ext Toy.cfg Toy.st Toy.led Toy.receive = .ok o := (Toy.isOk_iff _).mp (by decide +kernel)

end Cctp.C04
