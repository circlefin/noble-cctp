import Cctp.Lemmas.Shapes
import Cctp.Lemmas.Frame
import Cctp.Lemmas.Readers
/-
  C12 — pausing stops exactly the flows it names.
-/
namespace Cctp.C12
open Gen

/-- the seven user-facing transaction types. -/
def userFlow : Msg → Bool
  | .sendMessage .. | .sendMessageWithCaller .. | .depositForBurn .. | .depositForBurnWithCaller ..
  | .receiveMessage .. | .replaceMessage .. | .replaceDepositForBurn .. => true
  | _ => false

/-- a deposit hands over to a send, so it checks both flags. -/
theorem deposit_unpaused {ext : Ext} {cfg : Cfg} {st : Store} {led : Ledger} {f : Bytes} {a : Option Int} {d : Nat} {r t c : Bytes}
    {o : Out} (h : depositForBurn ext cfg st led f a d r t c = .ok o) : burnPaused st = false ∧ sendPaused st = false := by
  obtain ⟨_, _, _, _, _, _, s, _⟩ := depositForBurn_shape h
  exact ⟨s.unpaused, s.send.unpaused⟩

/-- **While sending-and-receiving is paused no message is sent, replaced or received.** -/
theorem send_paused_blocks (ext : Ext) (cfg : Cfg) (st : Store) (led : Ledger) (m : Msg)
    (hp : sendPaused st = true) (hm : userFlow m = true) : ∀ o, handle ext cfg st led m ≠ .ok o := by
  intro o h
  have : sendPaused st = false := by
    cases m with
    | sendMessage f d r b =>
      obtain ⟨_, _, s, _⟩ := sendMessage_shape h
      exact s.unpaused
    | sendMessageWithCaller f d r b c =>
      obtain ⟨_, _, _, s, _⟩ := sendMessageWithCaller_shape h
      exact s.unpaused
    | depositForBurn f a d r t => exact (deposit_unpaused h).2
    | depositForBurnWithCaller f a d r t c => exact (deposit_unpaused (depositForBurnWithCaller_deposit h)).2
    | receiveMessage f msg att => exact ((receiveMessage_ok ..).mp h).1
    | replaceMessage f og a b c => exact ((replaceMessage_ok ..).mp h).1
    | replaceDepositForBurn f og a c r =>
      obtain ⟨_, _, _, hin, _⟩ := replaceDepositForBurn_inner h
      exact ((replaceMessage_ok ..).mp hin).1
    | _ => cases hm
  exact Bool.false_ne_true (this.symm.trans hp)

/-- **While burning-and-minting is paused no deposit, deposit replacement or mint occurs.** -/
theorem burn_paused_blocks (ext : Ext) (cfg : Cfg) (st : Store) (led : Ledger) (hp : burnPaused st = true) :
    (∀ f a d r t o, handle ext cfg st led (.depositForBurn f a d r t) ≠ .ok o) ∧
    (∀ f a d r t c o, handle ext cfg st led (.depositForBurnWithCaller f a d r t c) ≠ .ok o) ∧
    (∀ f og a c r o, handle ext cfg st led (.replaceDepositForBurn f og a c r) ≠ .ok o) ∧
    (∀ f msg att o m, Message.parse msg = .ok m → m.recipient = cfg.modulePadded →
        handle ext cfg st led (.receiveMessage f msg att) ≠ .ok o) := by
  have no : burnPaused st = false → False := fun h => Bool.false_ne_true (h.symm.trans hp)
  refine ⟨?_, ?_, ?_, ?_⟩
  · intro f a d r t o h
    exact no (deposit_unpaused h).1
  · intro f a d r t c o h
    exact no (deposit_unpaused (depositForBurnWithCaller_deposit h)).1
  · intro f og a c r o h
    exact no ((replaceDepositForBurn_ok ..).mp h).1
  · intro f msg att o m hpm hrec h
    obtain ⟨_, _, _, _, s, _⟩ := receive_module_shape h (parse_wf hpm).1 hrec
    exact no s.unpaused

/-- no Mint request reaches the dependency while minting is paused: a receive that still succeeds is not for the module. -/
theorem no_mint_while_burn_paused (ext : Ext) (cfg : Cfg) (st : Store) (led : Ledger) (f msg att : Bytes) (o : Out)
    (hp : burnPaused st = true) (h : handle ext cfg st led (.receiveMessage f msg att) = .ok o) : o.deps = [] := by
  obtain ⟨m, mo, _, hmo, rfl⟩ := receiveMessage_shape h
  rcases mintOrSkip_cases hmo with ⟨_, _, _, _, _, s, _⟩ | ⟨_, rfl⟩
  · exact absurd (s.unpaused.symm.trans hp) Bool.false_ne_true
  · rfl

/-- **… though messages not addressed to the module can still be received**: for such a message the
    acceptance condition does not mention the burn flag at all. -/
theorem receive_other_ok_iff (ext : Ext) (cfg : Cfg) (st : Store) (led : Ledger) (f msg att : Bytes) (m : Message)
    (hpm : Message.parse msg = .ok m) (hrec : m.recipient ≠ cfg.modulePadded) :
    (∃ o, handle ext cfg st led (.receiveMessage f msg att) = .ok o) ↔
      sendPaused st = false ∧ (attestersOf st).length ≠ 0 ∧
      (∃ t, getThreshold st = some t ∧ verify ext msg att (attestersOf st) t = .ok ()) ∧
      m.destDomain = NobleDomainId ∧ (m.caller = zeros 32 ∨ ext.bech32Enc (m.caller.drop 12) = some f) ∧
      m.version = NobleMessageVersion ∧ isUsed st m.sourceDomain m.nonce = false := by
  constructor
  · rintro ⟨o, h⟩
    obtain ⟨h1, h2, t, h3, h4, m', hp', h5, h6, h7, h8, _⟩ := (receiveMessage_ok ..).mp h
    cases hpm.symm.trans hp'
    exact ⟨h1, h2, ⟨t, h3, h4⟩, h5, h6, h7, h8⟩
  · rintro ⟨h1, h2, ⟨t, h3, h4⟩, h5, h6, h7, h8⟩
    exact ⟨_, (receiveMessage_ok ..).mpr ⟨h1, h2, t, h3, h4, m, hpm, h5, h6, h7, h8, _, mintOrSkip_other hrec, rfl⟩⟩

/-- a stored flag that a delivery changed was written by it: the delivery succeeded and its type writes the flag's class
    (`c` is a variable so that, for a concrete key, `contains c` evaluates once the type is known). -/
theorem flag_frame {ext : Ext} {cfg : Cfg} {w : World} {f : List Bool} {m : Msg} {k : Bytes} {c : Nat} (hc : Key.cls k = c)
    (h : getFlag (deliver ext cfg w f m).1.store k ≠ getFlag w.store k) :
    (docClasses m).contains c = true ∧ ∃ o, handle ext cfg w.store { w.ledger with faults := f } m = .ok o := by
  have hcl : (docClasses m).contains c = true := Decidable.byContradiction fun hcl =>
    h (getFlag_congr (get_deliver_of_cls (hc ▸ mt List.contains_iff_mem.mpr hcl)))
  have hok : (deliver ext cfg w f m).2.fail = none := Decidable.byContradiction fun hf => by
    obtain ⟨e, he⟩ := deliver_failed hf
    exact h (by rw [he])
  exact ⟨hcl, deliver_fail_none.mp hok⟩

/-- **Each flag changes only by the pauser's pause / unpause of that flag.** -/
theorem burn_flag_frame (ext : Ext) (cfg : Cfg) (w : World) (f : List Bool) (m : Msg)
    (h : getFlag (deliver ext cfg w f m).1.store Key.burnPaused ≠ getFlag w.store Key.burnPaused) :
    (m = .pauseBurning m.from_ ∨ m = .unpauseBurning m.from_) ∧ getRole w.store Key.pauser = some m.from_ ∧
    (deliver ext cfg w f m).2.fail = none := by
  obtain ⟨hcl, o, ho⟩ := flag_frame Key.cls_burnPaused h
  -- class 5 is written by these two types only: for every other one `hcl` evaluates to `false = true`
  have hm : C10.roleKey m = some Key.pauser ∧ (m = .pauseBurning m.from_ ∨ m = .unpauseBurning m.from_) := by
    cases m with
    | pauseBurning _ => exact ⟨rfl, .inl rfl⟩
    | unpauseBurning _ => exact ⟨rfl, .inr rfl⟩
    | _ => exact absurd hcl Bool.false_ne_true
  exact ⟨hm.2, (handle_admin hm.1 ho).1, deliver_fail_none.mpr ⟨o, ho⟩⟩

theorem send_flag_frame (ext : Ext) (cfg : Cfg) (w : World) (f : List Bool) (m : Msg)
    (h : getFlag (deliver ext cfg w f m).1.store Key.sendPaused ≠ getFlag w.store Key.sendPaused) :
    (m = .pauseSending m.from_ ∨ m = .unpauseSending m.from_) ∧ getRole w.store Key.pauser = some m.from_ ∧
    (deliver ext cfg w f m).2.fail = none := by
  obtain ⟨hcl, o, ho⟩ := flag_frame Key.cls_sendPaused h
  have hm : C10.roleKey m = some Key.pauser ∧ (m = .pauseSending m.from_ ∨ m = .unpauseSending m.from_) := by
    cases m with
    | pauseSending _ => exact ⟨rfl, .inl rfl⟩
    | unpauseSending _ => exact ⟨rfl, .inr rfl⟩
    | _ => exact absurd hcl Bool.false_ne_true
  exact ⟨hm.2, (handle_admin hm.1 ho).1, deliver_fail_none.mpr ⟨o, ho⟩⟩

/-- the store after the pauser's pause / unpause: `m` is any message that `handle` sends to `setFlag k v`. -/
theorem deliver_setFlag (ext : Ext) (cfg : Cfg) {w : World} {fr k : Bytes} {v : Bool} {kind : EvKind} {m : Msg} (f : List Bool)
    (hm : ∀ st led, handle ext cfg st led m = setFlag st led k v kind fr) (hp : getRole w.store Key.pauser = some fr) :
    (deliver ext cfg w f m).1.store = w.store.set k (.flag v) := by
  rw [deliver_ok ((hm ..).trans ((setFlag_ok ..).mpr ⟨hp, rfl⟩))]; rfl

/-- the pauser's pause / unpause sets exactly the flag it names, to the value it names, and leaves the
    other flag alone. -/
theorem pause_sets (ext : Ext) (cfg : Cfg) (w : World) (f : List Bool) (fr : Bytes)
    (hp : getRole w.store Key.pauser = some fr) :
    burnPaused (deliver ext cfg w f (.pauseBurning fr)).1.store = true ∧
    burnPaused (deliver ext cfg w f (.unpauseBurning fr)).1.store = false ∧
    sendPaused (deliver ext cfg w f (.pauseSending fr)).1.store = true ∧
    sendPaused (deliver ext cfg w f (.unpauseSending fr)).1.store = false ∧
    sendPaused (deliver ext cfg w f (.pauseBurning fr)).1.store = sendPaused w.store ∧
    burnPaused (deliver ext cfg w f (.pauseSending fr)).1.store = burnPaused w.store := by
  have d1 := deliver_setFlag ext cfg (m := .pauseBurning fr) f (fun _ _ => rfl) hp
  have d2 := deliver_setFlag ext cfg (m := .unpauseBurning fr) f (fun _ _ => rfl) hp
  have d3 := deliver_setFlag ext cfg (m := .pauseSending fr) f (fun _ _ => rfl) hp
  have d4 := deliver_setFlag ext cfg (m := .unpauseSending fr) f (fun _ _ => rfl) hp
  have same : ∀ (k : Bytes) (v : Bool), getFlag (w.store.set k (.flag v)) k = some v := fun k v =>
    getFlag_some.mpr (Store.get_set_same ..)
  refine ⟨?_, ?_, ?_, ?_, ?_, ?_⟩
  · rw [d1, burnPaused, same]; rfl
  · rw [d2, burnPaused, same]; rfl
  · rw [d3, sendPaused, same]; rfl
  · rw [d4, sendPaused, same]; rfl
  · rw [d1, sendPaused, sendPaused, getFlag_congr (Store.get_set_other _ _ _ _ (Key.ne_of_cls (by decide)))]
  · rw [d3, burnPaused, burnPaused, getFlag_congr (Store.get_set_other _ _ _ _ (Key.ne_of_cls (by decide)))]

/-- **Pausing is idempotent**: pausing an already paused flag leaves the store as it is
    (stated for stores where keys are unique and ordered, as every reachable store is). -/
theorem pause_idempotent (ext : Ext) (cfg : Cfg) (w : World) (f : List Bool) (fr : Bytes) (hwf : w.store.WF)
    (hp : getRole w.store Key.pauser = some fr) (hb : w.store.get Key.burnPaused = some (.flag true)) :
    (deliver ext cfg w f (.pauseBurning fr)).1.store = w.store := by
  rw [deliver_setFlag ext cfg f (fun _ _ => rfl) hp]
  exact Store.set_eq_self hwf hb

/-- **Administrative actions stay available while paused**: no privileged handler's success depends on a
    pause flag — shown here as: each still succeeds for its role holder with both flags set. -/
theorem admin_available_while_paused (ext : Ext) (cfg : Cfg) (st : Store) (led : Ledger) (fr : Bytes)
    (_hb : burnPaused st = true) (_hs : sendPaused st = true) :
    (getRole st Key.pauser = some fr → ∃ o, handle ext cfg st led (.unpauseBurning fr) = .ok o) ∧
    (getRole st Key.pauser = some fr → ∃ o, handle ext cfg st led (.unpauseSending fr) = .ok o) ∧
    (getRole st Key.owner = some fr → ∀ n, ∃ o, handle ext cfg st led (.updateMaxMessageBodySize fr n) = .ok o) ∧
    (getRole st Key.tokenController = some fr → ∀ l a, ∃ o, handle ext cfg st led (.setMaxBurnAmountPerMessage fr l a) = .ok o) ∧
    (getRole st Key.owner = some fr → ∀ n, (ext.accAddr n).isSome → ∃ o, handle ext cfg st led (.updateOwner fr n) = .ok o) :=
  ⟨fun h => ⟨_, (setFlag_ok ..).mpr ⟨h, rfl⟩⟩, fun h => ⟨_, (setFlag_ok ..).mpr ⟨h, rfl⟩⟩,
   fun h _ => ⟨_, (updateMaxMessageBodySize_ok ..).mpr ⟨h, rfl⟩⟩,
   fun h _ _ => ⟨_, (setMaxBurnAmountPerMessage_ok ..).mpr ⟨h, rfl⟩⟩,
   fun h _ hv => (Option.isSome_iff_exists.mp hv).elim fun a ha => ⟨_, (updateOwner_ok ..).mpr ⟨h, a, ha, rfl⟩⟩⟩

/-- the two pause-flag keys. -/
def isFlagKey (k : Bytes) : Prop := k = Key.burnPaused ∨ k = Key.sendPaused

/-- the key classes a privileged handler reads: the five role slots, the threshold, attesters, token pairs and remote
    token messengers. -/
def adminReads : List Nat := [0, 1, 2, 3, 4, 9, 10, 13, 14]

/-- a privileged handler reads the store only at keys of these classes: a write elsewhere does not change its outcome. -/
theorem admin_reads (ext : Ext) (cfg : Cfg) (st : Store) (led : Ledger) (m : Msg) (k : Bytes) (v : Val)
    (hk : adminReads.contains (Key.cls k) = false) (hm : C10.privileged m = true) :
    handle ext cfg (st.set k v) led m = handle ext cfg st led m := by
  have g : ∀ {k2 : Bytes} {c : Nat}, Key.cls k2 = c → adminReads.contains c = true → (st.set k v).get k2 = st.get k2 :=
    fun e h => Store.get_set_other _ _ _ _ fun e' => by
      -- `k2 = k` would put the class of `k` among `adminReads`
      rw [← e', e] at hk
      exact Bool.false_ne_true (hk.symm.trans h)
  have r0 := getRole_congr (g Key.cls_owner rfl)
  have r1 := getRole_congr (g Key.cls_pendingOwner rfl)
  have r2 := getRole_congr (g Key.cls_attesterManager rfl)
  have r3 := getRole_congr (g Key.cls_pauser rfl)
  have r4 := getRole_congr (g Key.cls_tokenController rfl)
  have thr := getThreshold_congr (g Key.cls_threshold rfl)
  have att : ∀ a, getAttester (st.set k v) a = getAttester st a := fun a => getAttester_congr (g (Key.cls_attester a) rfl)
  have pair : ∀ d t, getPair ext (st.set k v) d t = getPair ext st d t := fun d t =>
    getPair_congr (g (Key.cls_tokenPair ext d t) rfl)
  have msgr : ∀ d, getMessenger (st.set k v) d = getMessenger st d := fun d =>
    getMessenger_congr (g (Key.cls_messenger d) rfl)
  have all : attestersOf (st.set k v) = attestersOf st := by
    unfold attestersOf
    rw [Store.scan_set_other _ _ _ _ (Key.not_attester_prefix fun e => Bool.false_ne_true (hk.symm.trans (e ▸ rfl)))]
  -- a user flow is not privileged; a privileged handler reads the store only through these getters
  cases m with
  | depositForBurn _ _ _ _ _ | depositForBurnWithCaller _ _ _ _ _ _ | receiveMessage _ _ _ | replaceDepositForBurn _ _ _ _ _
  | replaceMessage _ _ _ _ _ | sendMessage _ _ _ _ | sendMessageWithCaller _ _ _ _ _ => cases hm
  | _ =>
    unfold handle
    simp only [acceptOwner, addRemoteTokenMessenger, removeRemoteTokenMessenger, enableAttester, disableAttester,
      updateSignatureThreshold, setFlag, linkTokenPair, unlinkTokenPair, setMaxBurnAmountPerMessage, updateOwner, updateRole,
      updateMaxMessageBodySize, r0, r1, r2, r3, r4, thr, att, pair, msgr, all]

/-- **Administrative actions stay available while paused — at full strength**: the outcome (success or
    failure, writes, events) of every one of the 18 privileged transaction types is the same whatever
    the two pause flags hold; no administrative handler reads them. -/
theorem admin_ignores_pause_flags (ext : Ext) (cfg : Cfg) (st : Store) (led : Ledger) (m : Msg) (k : Bytes) (b : Bool)
    (hk : isFlagKey k) (hm : C10.privileged m = true) :
    handle ext cfg (st.set k (.flag b)) led m = handle ext cfg st led m :=
  admin_reads ext cfg st led m k _ (by rcases hk with rfl | rfl <;> rfl) hm

/-- **Unpausing restores the previous behaviour**: from a state in which a flag is stored as "not paused",
    the pauser's pause followed by unpause of that flag gives back the identical store — hence identical
    results for every later transaction and query (the ledger is not touched by either). -/
theorem unpause_restores (ext : Ext) (cfg : Cfg) (w : World) (f1 f2 : List Bool) (fr : Bytes) (hwf : w.store.WF)
    (hp : getRole w.store Key.pauser = some fr) :
    (w.store.get Key.burnPaused = some (.flag false) →
      (deliver ext cfg (deliver ext cfg w f1 (.pauseBurning fr)).1 f2 (.unpauseBurning fr)).1.store = w.store) ∧
    (w.store.get Key.sendPaused = some (.flag false) →
      (deliver ext cfg (deliver ext cfg w f1 (.pauseSending fr)).1 f2 (.unpauseSending fr)).1.store = w.store) := by
  -- setting a flag twice is setting it once, and setting it to what it holds changes nothing; `k` is no role key
  have restore : ∀ {k : Bytes} {m1 m2 : Msg} {k1 k2 : EvKind}, ¬ Key.cls Key.pauser = Key.cls k →
      (∀ st led, handle ext cfg st led m1 = setFlag st led k true k1 fr) →
      (∀ st led, handle ext cfg st led m2 = setFlag st led k false k2 fr) → w.store.get k = some (.flag false) →
      (deliver ext cfg (deliver ext cfg w f1 m1).1 f2 m2).1.store = w.store := fun {k m1 m2 k1 k2} hk h1 h2 hb => by
    have d1 := deliver_setFlag ext cfg f1 h1 hp
    have hp' : getRole (deliver ext cfg w f1 m1).1.store Key.pauser = some fr := by
      rw [d1, getRole_congr (Store.get_set_other _ _ _ _ (Key.ne_of_cls hk))]; exact hp
    rw [deliver_setFlag ext cfg f2 h2 hp', d1, Store.set_set]
    exact Store.set_eq_self hwf hb
  exact ⟨restore (by decide) (fun _ _ => rfl) (fun _ _ => rfl), restore (by decide) (fun _ _ => rfl) (fun _ _ => rfl)⟩


/-! non-vacuity: a store with one flag set and the other not -/
example : sendPaused [(Key.sendPaused, .flag true)] = true ∧ burnPaused [(Key.sendPaused, .flag true)] = false := by decide +kernel

end Cctp.C12
