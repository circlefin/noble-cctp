import Cctp.Spec.Toy
import Cctp.Lemmas.Shapes
/-
  C06 — outbound messages carry exactly the requested content.
  Every MessageSent payload is read with the literal-offset reference decoder of Spec/Layout.lean.
-/
namespace Cctp.C06
open Cctp.Spec

/-- SendMessage: version 0, source 4, the response nonce, sender = the submitter's address left-padded to
    32 bytes, exactly the requested destination domain, recipient and body, and an all-zero destination caller. -/
theorem send_content (ext : Ext) (cfg : Cfg) (st : Store) (led : Ledger) (f : Bytes) (dest : Nat) (rcp body : Bytes) (o : Out)
    (hd : dest < 2 ^ 32) (hc : curNonce st < 2 ^ 64) (h : handle ext cfg st led (.sendMessage f dest rcp body) = .ok o) :
    ∃ addr bz n, ext.accAddr f = some addr ∧ o.resp = .nonce n ∧ o.events = [Event.messageSent bz] ∧
      decodeMessage bz = some ⟨0, 4, dest, n, pad12 addr, rcp, zeros 32, body⟩ := by
  obtain ⟨addr, bz, s, rfl⟩ := sendMessage_shape h
  exact ⟨addr, bz, curNonce st, s.account, rfl, rfl, s.wire_exact hd hc⟩

/-- SendMessageWithCaller: the same, with exactly the requested destination caller. -/
theorem send_with_caller_content (ext : Ext) (cfg : Cfg) (st : Store) (led : Ledger) (f : Bytes) (dest : Nat)
    (rcp body caller : Bytes) (o : Out) (hd : dest < 2 ^ 32) (hc : curNonce st < 2 ^ 64)
    (h : handle ext cfg st led (.sendMessageWithCaller f dest rcp body caller) = .ok o) :
    ∃ addr bz n, ext.accAddr f = some addr ∧ o.resp = .nonce n ∧ o.events = [Event.messageSent bz] ∧
      decodeMessage bz = some ⟨0, 4, dest, n, pad12 addr, rcp, caller, body⟩ := by
  obtain ⟨_, addr, bz, s, rfl⟩ := sendMessageWithCaller_shape h
  exact ⟨addr, bz, curNonce st, s.account, rfl, rfl, s.wire_exact hd hc⟩

/-- Deposits: the message speaks as the module (sender = module address padded), goes to the token messenger
    registered for the destination domain, carries the requested destination caller (all-zero when none), and
    its body is a version-0 burn message with burn token keccak256(lower-cased denom), the requested mint
    recipient, the deposited amount and the depositor as message sender.  The DepositForBurn event emitted
    alongside reports the same nonce, amount, depositor, mint recipient, destination and destination caller,
    and names the burn token of the body. -/
theorem deposit_content (ext : Ext) (cfg : Cfg) (st : Store) (led : Ledger) (f : Bytes) (amount : Option Int) (dest : Nat)
    (rcp tok caller : Bytes) (o : Out) (hd : dest < 2 ^ 32) (hc : curNonce st < 2 ^ 64)
    (h : depositForBurn ext cfg st led f amount dest rcp tok caller = .ok o) :
    ∃ addr maddr a msgr bz body n,
      ext.accAddr f = some addr ∧ ext.accAddr cfg.moduleStr = some maddr ∧ amount = some a ∧
      getMessenger st dest = some msgr ∧ o.resp = .nonce n ∧
      o.events = [Event.messageSent bz,
        Event.depositForBurn n (toHex (ext.keccak256 (ext.toLower tok))) a f rcp dest msgr.2 caller] ∧
      decodeMessage bz = some ⟨0, 4, dest, n, pad12 maddr, msgr.2, wireCaller caller, body⟩ ∧
      decodeBurn body = some ⟨0, ext.keccak256 (ext.toLower tok), rcp, a.toNat, pad12 addr⟩ ∧ 0 < a := by
  obtain ⟨addr, maddr, a, msgr, bz, body, s, rfl⟩ := depositForBurn_shape h
  exact ⟨addr, maddr, a, msgr, bz, body, curNonce st, s.account, s.send.account, s.amount_eq, s.messenger, rfl,
    rfl, s.send.wire_exact hd hc, s.burn_wire, s.pos⟩

/-- the two deposit transaction types are that function with no caller / with the given caller. -/
theorem deposit_variants (ext : Ext) (cfg : Cfg) (st : Store) (led : Ledger) (f : Bytes) (a : Option Int) (d : Nat) (r t c : Bytes) :
    handle ext cfg st led (.depositForBurn f a d r t) = depositForBurn ext cfg st led f a d r t [] ∧
    (∀ o, handle ext cfg st led (.depositForBurnWithCaller f a d r t c) = .ok o →
      depositForBurn ext cfg st led f a d r t c = .ok o ∧ c.length ≠ 0) :=
  ⟨rfl, fun _ h => ⟨depositForBurnWithCaller_deposit h, ((depositForBurnWithCaller_ok ..).mp h).1.1⟩⟩

/-- **A replacement's event names the same burn token as the original deposit's event**: both name the burn
    token carried in the (unchanged) burn-token field of the burn body. -/
theorem replace_event_same_token (ext : Ext) (cfg : Cfg) (st st' : Store) (led led' : Ledger)
    (f : Bytes) (amount : Option Int) (dest : Nat) (rcp tok caller : Bytes) (o : Out)
    (f' att newCaller newRcp : Bytes) (o' : Out) (bz : Bytes)
    (hdep : depositForBurn ext cfg st led f amount dest rcp tok caller = .ok o)
    (hbz : Event.messageSent bz ∈ o.events)
    (hrep : replaceDepositForBurn ext cfg st' led' f' bz att newCaller newRcp = .ok o') :
    ∃ (a : Int) (msgr : Bytes) (om : Message),
      Event.depositForBurn (curNonce st) (toHex (ext.keccak256 (ext.toLower tok))) a f rcp dest msgr caller ∈ o.events ∧
      Event.depositForBurn om.nonce (toHex (ext.keccak256 (ext.toLower tok))) (Int.ofNat a.toNat) f' newRcp
        om.destDomain om.recipient newCaller ∈ o'.events := by
  obtain ⟨addr, maddr, a, msgr, bz0, body, s, rfl⟩ := depositForBurn_shape hdep
  obtain ⟨t, om, ob, addr', maddr', bz', nbody, r, rfl⟩ := replaceDepositForBurn_shape hrep
  -- `bz` is the deposit's one MessageSent payload, whose burn body names the token
  rcases List.mem_cons.mp hbz with e | hbz
  · cases e
    cases s.send.wire.symm.trans r.replace.original
    cases s.burn_wire.symm.trans r.burn_body
    exact ⟨a, _, _, List.mem_cons_of_mem _ List.mem_cons_self, List.mem_cons_of_mem _ List.mem_cons_self⟩
  · cases List.mem_singleton.mp hbz

/-- the replacement's event reports the ORIGINAL nonce, amount, destination and messenger, and the NEW mint
    recipient and destination caller. -/
theorem replace_event_content (ext : Ext) (cfg : Cfg) (st : Store) (led : Ledger) (f orig att newCaller newRcp : Bytes) (o : Out)
    (h : replaceDepositForBurn ext cfg st led f orig att newCaller newRcp = .ok o) :
    ∃ om ob bz, decodeMessage orig = some om ∧ decodeBurn om.body = some ob ∧
      o.events = [Event.messageSent bz, Event.depositForBurn om.nonce (toHex ob.burnToken) (Int.ofNat ob.amount) f newRcp
                    om.destDomain om.recipient newCaller] := by
  obtain ⟨t, om, ob, addr, maddr, bz, nbody, r, rfl⟩ := replaceDepositForBurn_shape h
  exact ⟨om, ob, bz, r.replace.original, r.burn_body, rfl⟩

/-! non-vacuity: a concrete successful send and deposit in the toy world (the hypotheses of the content theorems), and a
    successful message replacement -/
example : ∃ o, handle Toy.ext Toy.cfg Toy.st Toy.led Toy.send = .ok o := Toy.send_ok
example : ∃ o, handle Toy.ext Toy.cfg Toy.st Toy.led Toy.deposit = .ok o := Toy.deposit_ok
example : ∃ o, handle Toy.ext Toy.cfg Toy.st Toy.led Toy.replace = .ok o := Toy.replace_ok

end Cctp.C06
