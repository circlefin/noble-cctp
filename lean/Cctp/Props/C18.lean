import Cctp.Spec.Toy
import Cctp.Props.C17
/-
  C18 — execution is deterministic and depends only on chain state.   (PARTIAL, level "other")
  What a theorem can carry: the model is a FUNCTION of (genesis, history), so every replay that agrees with
  the model agrees with every other replay; the store after InitGenesis does not depend on the order of the
  genesis lists; writes to distinct keys commute; and the regenerated static scan finds no source of
  nondeterminism in the module's own code.  What only the runtime can show (Go map order, goroutine
  scheduling, memory retained outside the store through aliasing) is explored by the harness: the same
  history replayed on a fresh instance, after an unrelated history in the same process, and concurrently
  on several goroutines must give byte-identical app hashes, responses and events.
-/
namespace Cctp.C18

/-- two sorted stores that answer every lookup alike are the same list (hence the same iteration order,
    the same exported genesis, the same root hash input). -/
theorem store_ext {s1 s2 : Store} (h1 : s1.WF) (h2 : s2.WF) (h : ∀ k, s1.get k = s2.get k) : s1 = s2 :=
  Store.ext_of_get h1 h2 h

/-- writes to distinct keys commute. -/
theorem set_commute (s : Store) (hs : s.WF) (k1 k2 : Bytes) (v1 v2 : Val) (hne : k1 ≠ k2) :
    (s.set k1 v1).set k2 v2 = (s.set k2 v2).set k1 v1 := by
  refine store_ext (Store.wf_set _ _ _ (Store.wf_set _ _ _ hs)) (Store.wf_set _ _ _ (Store.wf_set _ _ _ hs)) fun k => ?_
  by_cases e1 : k = k1
  · rw [e1, Store.get_set_other _ _ _ _ hne, Store.get_set_same, Store.get_set_same]
  · rw [Store.get_set_other _ _ _ _ e1]
    by_cases e2 : k = k2
    · rw [e2, Store.get_set_same, Store.get_set_same]
    · rw [Store.get_set_other _ _ _ _ e2, Store.get_set_other _ _ _ _ e2, Store.get_set_other _ _ _ _ e1]

/-- a batch of writes with pairwise distinct keys can be applied in any order. -/
theorem lastWrite_perm {α} (l1 l2 : List α) (key : α → Bytes) (val : α → Val) (hp : l1.Perm l2) (hnd : (l1.map key).Nodup) (k : Bytes) :
    lastWrite (l1.map fun x => (key x, some (val x))) k = lastWrite (l2.map fun x => (key x, some (val x))) k := by
  have hnd2 : (l2.map key).Nodup := (hp.map key).nodup_iff.mp hnd
  refine Option.ext fun v => ?_
  rw [lastWrite_eq_some_iff (by rwa [List.map_map]), lastWrite_eq_some_iff (by rwa [List.map_map]), (hp.map _).mem_iff]

/-- **The store after InitGenesis does not depend on the order of the genesis lists**: two validated genesis
    states that differ only by a reordering of their five keyed lists initialise to the same store. -/
theorem init_order_independent (ext : Ext) (g1 g2 : Genesis) (st1 st2 : Store)
    (hv : g1.validate ext = true)
    (hr : g1.owner = g2.owner ∧ g1.attesterManager = g2.attesterManager ∧ g1.pauser = g2.pauser ∧ g1.tokenController = g2.tokenController)
    (hsc : g1.burnPaused = g2.burnPaused ∧ g1.sendPaused = g2.sendPaused ∧ g1.maxBody = g2.maxBody ∧ g1.nextNonce = g2.nextNonce ∧
           g1.threshold = g2.threshold)
    (hl : g1.attesters.Perm g2.attesters ∧ g1.limits.Perm g2.limits ∧ g1.pairs.Perm g2.pairs ∧ g1.used.Perm g2.used ∧
          g1.messengers.Perm g2.messengers)
    (h1 : Genesis.init ext [] g1 = .ok st1) (h2 : Genesis.init ext [] g2 = .ok st2) : st1 = st2 := by
  obtain ⟨n1, n2, n3, n4, n5, _, _⟩ := C17.validate_rejects_collisions ext g1 hv
  obtain ⟨l1, l2, l3, l4, l5⟩ := hl
  refine store_ext (C17.good_init ext g1 st1 h1).wf (C17.good_init ext g2 st2 h2).wf fun k => ?_
  rw [get_init h1, get_init h2]
  -- the seven segments of `initWrites` (found by unification with its `++` chain), last to first: messengers, used nonces,
  -- pairs, scalars, limits, attesters, roles
  exact congrArg Option.join <|
    lastWrite_append_congr (lastWrite_perm _ _ _ _ l5 n5 k) <| lastWrite_append_congr (lastWrite_perm _ _ _ _ l4 n4 k) <|
    lastWrite_append_congr (lastWrite_perm _ _ _ _ l3 n3 k) <| lastWrite_append_congr (by simp only [hsc]) <|
    lastWrite_append_congr (lastWrite_perm _ _ _ _ l2 n2 k) <| lastWrite_append_congr (lastWrite_perm _ _ _ _ l1 n1 k) <|
    by simp only [hr]

/-- the model is a function: the result of a history is determined by the starting world and the history. -/
theorem replay_deterministic (ext : Ext) (cfg : Cfg) (w1 w2 : World) (h1 h2 : History) (hw : w1 = w2) (hh : h1 = h2) :
    run ext cfg w1 h1 = run ext cfg w2 h2 := by subst hw; subst hh; rfl

/-- a step of a node's life: a transaction that is delivered (and committed iff it succeeds), or one that is run on a
    branch which is thrown away whatever the outcome. -/
inductive Step where
  | deliver (faults : List Bool) (m : Msg)
  | simulate (faults : List Bool) (m : Msg)

/-- what a simulation reports: the outcome the delivery would have. -/
def simulate (ext : Ext) (cfg : Cfg) (w : World) (f : List Bool) (m : Msg) : TxResult := (deliver ext cfg w f m).2

def stepWorld (ext : Ext) (cfg : Cfg) (w : World) : Step → World
  | .deliver f m => (deliver ext cfg w f m).1
  | .simulate _ _ => w

def delivered : List Step → History
  | [] => []
  | .deliver f m :: rest => (f, m) :: delivered rest
  | .simulate _ _ :: rest => delivered rest

/-- **No result depends on what was merely simulated**: the state after any interleaving of deliveries and discarded
    runs is the state after the deliveries alone — so every later response, event and query answer is too. -/
theorem simulations_leave_no_trace (ext : Ext) (cfg : Cfg) (steps : List Step) (w : World) :
    steps.foldl (stepWorld ext cfg) w = runState ext cfg w (delivered steps) := by
  induction steps generalizing w with
  | nil => rfl
  | cons s rest ih =>
    cases s with
    | deliver f m => exact (ih _).trans (runState_cons ..).symm
    | simulate f m => exact ih _

/-- … and a simulation predicts the delivery that follows it exactly. -/
theorem simulation_predicts (ext : Ext) (cfg : Cfg) (w : World) (f : List Bool) (m : Msg) :
    simulate ext cfg w f m = (deliver ext cfg (stepWorld ext cfg w (.simulate f m)) f m).2 := rfl

/-! non-vacuity: a concrete interleaving -- a simulated receive, the same receive delivered, a simulated deposit that is
    never delivered -- ends in the state of the one delivery alone -/
example : [Step.simulate [] Toy.receive, .deliver [] Toy.receive, .simulate [] Toy.deposit].foldl (stepWorld Toy.ext Toy.cfg) Toy.world =
    (deliver Toy.ext Toy.cfg Toy.world [] Toy.receive).1 :=
  -- stated of any world and messages, so that the kernel compares the two sides without running the toy handlers
  have h (w : World) (m m' : Msg) : [Step.simulate [] m, .deliver [] m, .simulate [] m'].foldl (stepWorld Toy.ext Toy.cfg) w =
      (deliver Toy.ext Toy.cfg w [] m).1 := rfl
  h ..

end Cctp.C18
