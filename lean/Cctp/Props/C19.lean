import Cctp.Props.C15
import Cctp.Lemmas.LastWrite
import Cctp.Lemmas.Paginate
/-
  C19 — registries behave as exact maps and queries reflect them.
-/
namespace Cctp.C19
open Gen Spec

/-- the store after a successful transaction, key by key: a written key holds what was written, every
    other key what it held before. -/
theorem get_after_ok (ext : Ext) (cfg : Cfg) (w : World) (f : List Bool) (m : Msg) (o : Out) (hwf : w.store.WF)
    (ho : handle ext cfg w.store { w.ledger with faults := f } m = .ok o) (k : Bytes) :
    (deliver ext cfg w f m).1.store.get k = match lastWrite o.writes k with | some v => v | none => w.store.get k := by
  rw [deliver_ok ho]; exact Store.get_applyAll _ _ _ hwf

/-- what a successful update implies, and its contrapositive: a request against the precondition `a` is rejected. -/
theorem and_rejects {p a a' b : Prop} (hc : a' → ¬ a) (h : p → a ∧ b) : (p → a ∧ b) ∧ (a' → ¬ p) :=
  ⟨h, fun ha hp => hc ha (h hp).1⟩

/-- adding creates exactly one entry (for the domain named), duplicates are rejected, … -/
theorem add_messenger (ext : Ext) (cfg : Cfg) (w : World) (f : List Bool) (fr : Bytes) (d : Nat) (a : Bytes) :
    ((deliver ext cfg w f (.addRemoteTokenMessenger fr d a)).2.fail = none →
      getMessenger w.store d = none ∧ a.length = 32 ∧
      getMessenger (deliver ext cfg w f (.addRemoteTokenMessenger fr d a)).1.store d = some (d, a)) ∧
    (getMessenger w.store d ≠ none → (deliver ext cfg w f (.addRemoteTokenMessenger fr d a)).2.fail ≠ none) := by
  refine and_rejects id fun hok => ?_
  obtain ⟨o, ho⟩ := deliver_fail_none.mp hok
  obtain ⟨_, hn, hl, _⟩ := (addRemoteTokenMessenger_ok ..).mp ho
  refine ⟨hn, hl, ?_⟩
  rw [deliver_store_set ho rfl, getMessenger, Store.get_set_same]

/-- … removal deletes exactly that entry, and removing an absent one is rejected. -/
theorem remove_messenger (ext : Ext) (cfg : Cfg) (w : World) (f : List Bool) (fr : Bytes) (d : Nat) (hwf : w.store.WF) :
    ((deliver ext cfg w f (.removeRemoteTokenMessenger fr d)).2.fail = none →
      getMessenger w.store d ≠ none ∧ getMessenger (deliver ext cfg w f (.removeRemoteTokenMessenger fr d)).1.store d = none) ∧
    (getMessenger w.store d = none → (deliver ext cfg w f (.removeRemoteTokenMessenger fr d)).2.fail ≠ none) := by
  refine and_rejects not_not_intro fun hok => ?_
  obtain ⟨o, ho⟩ := deliver_fail_none.mp hok
  obtain ⟨_, mm, hm, _⟩ := (removeRemoteTokenMessenger_ok ..).mp ho
  refine ⟨(fun h => nomatch hm.symm.trans h), ?_⟩
  rw [deliver_store_del ho rfl, getMessenger, Store.get_del_same _ _ hwf]

/-- distinct domains never interfere: whatever transaction is delivered, the entry of a domain whose key
    it is not documented to write is untouched (keys of distinct uint32 domains are distinct). -/
theorem messenger_frame (ext : Ext) (cfg : Cfg) (w : World) (f : List Bool) (m : Msg) (d : Nat)
    (hk : Key.messenger d ∉ documented ext m) (hg : Good ext w.store) (hinj : TokenKeyInj ext) :
    getMessenger (deliver ext cfg w f m).1.store d = getMessenger w.store d := by
  simp only [getMessenger, C15.untouched_outside_documented ext cfg w f m hg.typed.pairs hinj _ hk]

theorem messenger_keys_distinct (d d' : Nat) (hd : d < 2 ^ 32) (hd' : d' < 2 ^ 32) (h : d ≠ d') :
    Key.messenger d ≠ Key.messenger d' := fun e => h (messengerKey_injective d d' hd hd' e)

theorem enable_attester (ext : Ext) (cfg : Cfg) (w : World) (f : List Bool) (fr a : Bytes) :
    ((deliver ext cfg w f (.enableAttester fr a)).2.fail = none →
      getAttester w.store a = none ∧ getAttester (deliver ext cfg w f (.enableAttester fr a)).1.store a = some a) ∧
    (getAttester w.store a ≠ none → (deliver ext cfg w f (.enableAttester fr a)).2.fail ≠ none) := by
  refine and_rejects id fun hok => ?_
  obtain ⟨o, ho⟩ := deliver_fail_none.mp hok
  obtain ⟨_, _, hn, _⟩ := (enableAttester_ok ..).mp ho
  refine ⟨hn, ?_⟩
  rw [deliver_store_set ho rfl, getAttester, Store.get_set_same]

theorem disable_attester (ext : Ext) (cfg : Cfg) (w : World) (f : List Bool) (fr a : Bytes) (hwf : w.store.WF) :
    ((deliver ext cfg w f (.disableAttester fr a)).2.fail = none →
      getAttester w.store a ≠ none ∧ getAttester (deliver ext cfg w f (.disableAttester fr a)).1.store a = none) ∧
    (getAttester w.store a = none → (deliver ext cfg w f (.disableAttester fr a)).2.fail ≠ none) := by
  refine and_rejects not_not_intro fun hok => ?_
  obtain ⟨o, ho⟩ := deliver_fail_none.mp hok
  obtain ⟨_, _, ⟨x, hx⟩, _⟩ := (disableAttester_ok ..).mp ho
  refine ⟨(fun h => nomatch hx.symm.trans h), ?_⟩
  rw [deliver_store_del ho rfl, getAttester, Store.get_del_same _ _ hwf]

theorem attester_keys_distinct (a a' : Bytes) (h : a ≠ a') : Key.attester a ≠ Key.attester a' :=
  fun e => h (attesterKey_injective a a' e)

/-- a burn limit is stored under the LOWER-CASED denom. -/
theorem set_limit (ext : Ext) (cfg : Cfg) (w : World) (f : List Bool) (fr loc : Bytes) (amt : Option Int)
    (hok : (deliver ext cfg w f (.setMaxBurnAmountPerMessage fr loc amt)).2.fail = none) :
    getLimit (deliver ext cfg w f (.setMaxBurnAmountPerMessage fr loc amt)).1.store (ext.toLower loc) = some (amt.getD 0) := by
  obtain ⟨o, ho⟩ := deliver_fail_none.mp hok
  rw [deliver_store_set ho rfl, getLimit, Store.get_set_same]

theorem limit_keys_distinct (a a' : Bytes) (h : a ≠ a') : Key.limit a ≠ Key.limit a' :=
  fun e => h (limitKey_injective a a' e)

theorem link_pair (ext : Ext) (cfg : Cfg) (w : World) (f : List Bool) (fr : Bytes) (d : Nat) (t l : Bytes) :
    ((deliver ext cfg w f (.linkTokenPair fr d t l)).2.fail = none →
      getPair ext w.store d t = none ∧ t.length = 32 ∧
      getPair ext (deliver ext cfg w f (.linkTokenPair fr d t l)).1.store d t = some (d, t, ext.toLower l)) ∧
    (getPair ext w.store d t ≠ none → (deliver ext cfg w f (.linkTokenPair fr d t l)).2.fail ≠ none) := by
  refine and_rejects id fun hok => ?_
  obtain ⟨o, ho⟩ := deliver_fail_none.mp hok
  obtain ⟨_, hl, hn, _⟩ := (linkTokenPair_ok ..).mp ho
  refine ⟨hn, hl, ?_⟩
  rw [deliver_store_set ho rfl, getPair, Store.get_set_same]

theorem unlink_pair (ext : Ext) (cfg : Cfg) (w : World) (f : List Bool) (fr : Bytes) (d : Nat) (t l : Bytes)
    (hg : Good ext w.store) (hinj : TokenKeyInj ext) :
    ((deliver ext cfg w f (.unlinkTokenPair fr d t l)).2.fail = none →
      getPair ext w.store d t ≠ none ∧ getPair ext (deliver ext cfg w f (.unlinkTokenPair fr d t l)).1.store d t = none) ∧
    (getPair ext w.store d t = none → (deliver ext cfg w f (.unlinkTokenPair fr d t l)).2.fail ≠ none) := by
  refine and_rejects not_not_intro fun hok => ?_
  obtain ⟨o, ho⟩ := deliver_fail_none.mp hok
  obtain ⟨_, _, p, hp, _⟩ := (unlinkTokenPair_ok ..).mp ho
  refine ⟨(fun h => nomatch hp.symm.trans h), ?_⟩
  -- the key deleted is built from the stored pair: the key the request names, in a consistent store
  have hw : writesOf ext w.store (.unlinkTokenPair fr d t l) = [(Key.tokenPair ext d t, none)] := by
    simp only [writesOf, hp, getPair_token hg.typed.pairs (hinj d t) hp]
  rw [deliver_store_del ho hw, getPair, Store.get_del_same _ _ hg.wf]

/-- token-pair keys that differ in the domain only, or in the token only, are distinct — as far as Keccak is
    injective on the two 36-byte preimages (named hypothesis, never an axiom). -/
theorem pair_keys_distinct (ext : Ext) (d d' : Nat) (t t' : Bytes) (hd : d < 2 ^ 32) (hd' : d' < 2 ^ 32)
    (hk : ext.keccak256 (be DomainBytesLen d ++ t) = ext.keccak256 (be DomainBytesLen d' ++ t') →
          be DomainBytesLen d ++ t = be DomainBytesLen d' ++ t')
    (h : d ≠ d' ∨ t ≠ t') : Key.tokenPair ext d t ≠ Key.tokenPair ext d' t' := by
  intro e
  obtain ⟨h1, h2⟩ := tokenPairKey_injective ext d d' t t' hd hd' hk e
  exact h.elim (· h1) (· h2)

/-- what a single-item query returns: it succeeds exactly on an existing entry, with that entry as the response. -/
theorem single_item_results (ext : Ext) (st : Store) (r : QResp) :
    (∀ a, query ext st false (.attester a) = .ok r ↔ ∃ x, getAttester st a = some x ∧ r = .val (.attester x)) ∧
    (∀ d, query ext st false (.remoteTokenMessenger d) = .ok r ↔
      ∃ x, getMessenger st d = some x ∧ r = .val (.messenger x.1 x.2)) ∧
    (∀ d n, query ext st false (.usedNonce d n) = .ok r ↔ isUsed st d n = true ∧ r = .val (.nonce d n)) ∧
    (∀ dn, query ext st false (.burnLimit dn) = .ok r ↔ ∃ v, st.get (Key.limit dn) = some v ∧ r = .val v) := by
  -- each request is a nil-request guard, one lookup and `pure`
  unfold query
  simp only [guards, eq_comm (a := r)]

/-- **Single-item queries find an entry iff it exists.** -/
theorem single_item_queries (ext : Ext) (st : Store) :
    (∀ a, (∃ r, query ext st false (.attester a) = .ok r) ↔ getAttester st a ≠ none) ∧
    (∀ d, (∃ r, query ext st false (.remoteTokenMessenger d) = .ok r) ↔ getMessenger st d ≠ none) ∧
    (∀ d n, (∃ r, query ext st false (.usedNonce d n) = .ok r) ↔ isUsed st d n = true) ∧
    (∀ dn, (∃ r, query ext st false (.burnLimit dn) = .ok r) ↔ st.get (Key.limit dn) ≠ none) := by
  -- the response is determined by the entry, so "some response" is "some entry"
  have h := fun r => single_item_results ext st r
  simp only [fun r => (h r).1, fun r => (h r).2.1, fun r => (h r).2.2.1, fun r => (h r).2.2.2, exists_comm (α := QResp),
    exists_and_left, exists_eq, and_true, Option.ne_none_iff_exists', implies_true, and_self]

theorem token_pair_result (ext : Ext) (st : Store) (d : Nat) (hex raw tok : Bytes) (r : QResp)
    (h1 : hexDecodeStrict0x hex = some raw) (h2 : leftPad32 raw = some tok) :
    query ext st false (.tokenPair d hex) = .ok r ↔
      ∃ p, getPair ext st d tok = some p ∧ r = .val (.pair p.1 p.2.1 p.2.2) := by
  unfold query
  simp only [guards, h1, h2, Option.some.injEq, exists_eq_left', eq_comm (a := r)]

/-- the token-pair query takes the token as hex, left-pads it to 32 bytes and finds the pair iff one is
    stored for (domain, padded token). -/
theorem token_pair_query (ext : Ext) (st : Store) (d : Nat) (hex raw tok : Bytes)
    (h1 : hexDecodeStrict0x hex = some raw) (h2 : leftPad32 raw = some tok) :
    (∃ r, query ext st false (.tokenPair d hex) = .ok r) ↔ getPair ext st d tok ≠ none := by
  simp only [token_pair_result ext st d hex raw tok _ h1 h2, exists_comm (α := QResp), exists_and_left, exists_eq, and_true,
    Option.ne_none_iff_exists']

/-- scalar queries return the current values. -/
theorem scalar_queries (ext : Ext) (st : Store) :
    query ext st false .localDomain = .ok (.num 4) ∧ query ext st false .burnMessageVersion = .ok (.num 0) ∧
    query ext st false .localMessageVersion = .ok (.num 0) ∧
    (∀ b, getFlag st Key.burnPaused = some b → query ext st false .burningAndMintingPaused = .ok (.val (.flag b))) ∧
    (∀ b, getFlag st Key.sendPaused = some b → query ext st false .sendingAndReceivingPaused = .ok (.val (.flag b))) ∧
    (∀ n, getThreshold st = some n → query ext st false .signatureThreshold = .ok (.val (.threshold n))) ∧
    (∀ n, getSize st = some n → query ext st false .maxMessageBodySize = .ok (.val (.size n))) ∧
    (∀ d n, getNextNonce st = some (d, n) → query ext st false .nextAvailableNonce = .ok (.val (.nonce d n))) ∧
    (∀ o a p t, getRole st Key.owner = some o → getRole st Key.attesterManager = some a → getRole st Key.pauser = some p →
      getRole st Key.tokenController = some t → query ext st false .roles = .ok (.roles o a p t)) := by
  refine ⟨rfl, rfl, rfl, fun b h => ?_, fun b h => ?_, fun n h => ?_, fun n h => ?_, fun d n h => ?_, fun o a p t h1 h2 h3 h4 => ?_⟩
  -- each request: the nil-request guard as a conditional, the stored values put in, the rest evaluated
  all_goals
    unfold query
    simp only [req_bind, *]
    rfl

/-! ### pagination: every entry exactly once, for every page size, in offset and in key mode -/

/-- what the offset-mode loop of `query.Paginate` collects: the entries numbered offset+1 … end. -/
theorem pageLoop_items (off e : Nat) (ct : Bool) (he : e + 1 < 2 ^ 64) (l : List (Bytes × Val)) (c : Nat) (acc : List Val) (nk : Bytes) :
    (pageLoop off e ct l c acc nk).1 = acc ++ ((l.drop (off - c)).take (e - max off c)).map (·.2) := by
  by_cases h : max off c ≤ e
  · obtain ⟨hoe, hc⟩ := Nat.max_le.mp h
    rw [pageLoop_eq (u64_eq he) hoe hc, List.drop_take, Nat.sub_sub, Nat.add_comm c, Nat.sub_add_eq_max]
  · have hp := (Decidable.not_and_iff_or_not.mp (mt Nat.max_le.mpr h)).imp Nat.not_le.mp Nat.not_le.mp
    rw [pageLoop_past hp, Nat.sub_eq_zero_of_le (Nat.le_of_not_le h), List.take_zero, List.map_nil,
      List.append_nil]

/-- with count_total the loop visits every entry: the reported total is the number of entries. -/
theorem pageLoop_total (off e : Nat) (l : List (Bytes × Val)) (c : Nat) (acc : List Val) (nk : Bytes) :
    (pageLoop off e true l c acc nk).2.2 = c + l.length := by
  fun_induction pageLoop off e true l c acc nk with
  | case1 => rfl
  | case4 => contradiction  -- the branch that stops: taken without count_total only
  | _ =>
    rename_i ih
    exact ih.trans (Nat.succ_add_eq_add_succ ..)

/-- **Offset mode**: the page at (offset, limit) is exactly the entries offset+1 … offset+limit, in key order,
    and the total (when requested) is the number of entries — for every limit ≥ 1 and every offset. -/
theorem offset_page (all : List (Bytes × Val)) (offset limit : Nat) (ct : Bool) (hl : limit ≠ 0)
    (hw : offset + limit + 1 < 2 ^ 64) :
    ∃ r, paginate all (some ⟨[], offset, limit, ct, false⟩) = .ok r ∧
      r.items = ((all.drop offset).take limit).map (·.2) ∧ (ct = true → r.total = all.length) :=
  ⟨_, paginate_offset all offset limit ct hl hw, rfl, fun h => if_pos h⟩

/-- chunks of size L tile a list: so the pages at offsets 0, L, 2L, … return every entry exactly once. -/
theorem chunks_tile {α} (l : List α) (L : Nat) (hL : 0 < L) (n : Nat) :
    ((List.range n).map fun i => (l.drop (i * L)).take L).flatten ++ l.drop (n * L) = l := by
  induction n with
  | zero => rw [Nat.zero_mul]; rfl
  | succ n ih =>
    rw [List.range_succ, List.map_append, List.flatten_append, List.append_assoc, Nat.succ_mul, ← List.drop_drop]
    simp only [List.map_cons, List.map_nil, List.flatten_cons, List.flatten_nil, List.append_nil, List.take_append_drop, ih]

theorem offset_pages_cover (all : List (Bytes × Val)) (limit : Nat) (hl : limit ≠ 0) (n : Nat) (hn : all.length ≤ n * limit) :
    ((List.range n).map fun i => ((all.drop (i * limit)).take limit).map (·.2)).flatten = all.map (·.2) := by
  have h := congrArg (List.map (·.2)) (chunks_tile all limit (Nat.pos_of_ne_zero hl) n)
  rw [List.drop_eq_nil_of_le hn, List.append_nil, List.map_flatten, List.map_map] at h
  exact h

/-- the next_key of an offset-mode page is the key of the first entry after the page (if any). -/
theorem pageLoop_nextKey (off e : Nat) (ct : Bool) (he : e + 1 < 2 ^ 64) (l : List (Bytes × Val)) (c : Nat) (acc : List Val) (nk : Bytes)
    (hoe : off ≤ e) (hc : c ≤ e) :
    (pageLoop off e ct l c acc nk).2.1 = match l.drop (e - c) with | (k, _) :: _ => k | [] => nk := by
  rw [pageLoop_eq (u64_eq he) hoe hc]
  rfl

/-- entries at or after a start key (what `Iterator(start, nil)` yields). -/
def fromKey (all : List (Bytes × Val)) (start : Bytes) : List (Bytes × Val) := all.filter fun kv => !(blt kv.1 start)

/-- **Key mode**: the page at (key, limit) is the first `limit` entries at or after the key, and next_key is
    the key of the entry after them. -/
theorem key_page (all : List (Bytes × Val)) (key : Bytes) (limit : Nat) (ct : Bool) (hk : key.length ≠ 0) (hl : limit ≠ 0) :
    paginate all (some ⟨key, 0, limit, ct, false⟩) = .ok
      ⟨((fromKey all key).take limit).map (·.2), headKey ((fromKey all key).drop limit), 0⟩ := by
  unfold paginate
  simp only [Option.getD_some, hl, hk, ↓reduceIte, ne_eq, not_false_eq_true, Nat.lt_irrefl, false_and, req_bind, Bool.false_eq_true]
  rfl

/-- keys strictly increasing (what a prefix-store iterator yields). -/
def Sorted (l : List (Bytes × Val)) : Prop := l.Pairwise fun a b => blt a.1 b.1 = true

theorem fromKey_sorted (all : List (Bytes × Val)) (hs : Sorted all) (i : Nat) (hi : i < all.length) :
    fromKey all (all[i]).1 = all.drop i := by
  induction all generalizing i with
  | nil => exact absurd hi (Nat.not_lt_zero _)
  | cons p rest ih =>
    obtain ⟨hhead, hrest⟩ := List.pairwise_cons.mp hs
    cases i with
    | zero =>
      -- the head stays, and so does every later entry: its key is above the head's
      simp only [List.getElem_cons_zero, fromKey, List.drop_zero, List.filter_cons, blt_irrefl, Bool.not_false, if_true]
      exact congrArg _ (List.filter_eq_self.mpr fun q hq => by rw [blt_asymm (hhead q hq)]; rfl)
    | succ j =>
      have hj : j < rest.length := Nat.lt_of_succ_lt_succ hi
      simp only [List.getElem_cons_succ, List.drop_succ_cons, fromKey, List.filter_cons, hhead _ (List.getElem_mem hj), Bool.not_true,
        Bool.false_eq_true, if_false]
      exact ih hrest j hj

/-- **Following next_key visits every entry exactly once**: in a sorted collection with non-empty item keys
    (item keys end in "/"), the key-mode page that starts at the i-th entry's key is the entries i … i+limit−1,
    and its next_key is the key of entry i+limit (or empty at the end) — so pages chained through next_key
    tile the collection, for every limit ≥ 1. -/
theorem key_pages_chain (all : List (Bytes × Val)) (hs : Sorted all) (hne : ∀ kv ∈ all, kv.1.length ≠ 0)
    (limit : Nat) (ct : Bool) (hl : limit ≠ 0) (i : Nat) (hi : i < all.length) :
    paginate all (some ⟨(all[i]).1, 0, limit, ct, false⟩) = .ok
      ⟨((all.drop i).take limit).map (·.2), headKey (all.drop (i + limit)), 0⟩ := by
  rw [key_page all _ limit ct (hne _ (List.getElem_mem hi)) hl, fromKey_sorted all hs i hi, List.drop_drop]

/-- the first page (no key) is the offset-0 page, and hands over to the chain above. -/
theorem first_page (all : List (Bytes × Val)) (limit : Nat) (hl : limit ≠ 0) (hw : limit + 1 < 2 ^ 64) :
    ∃ r, paginate all (some ⟨[], 0, limit, false, false⟩) = .ok r ∧ r.items = (all.take limit).map (·.2) ∧
      r.nextKey = headKey (all.drop limit) := by
  have h := paginate_offset all 0 limit false hl (by rwa [Nat.zero_add])
  rw [Nat.zero_add] at h
  exact ⟨_, h, rfl, rfl⟩

/-- stripping (or adding) a common prefix does not change the order of two keys — so the entries a prefix store
    hands to Paginate, keys stripped, are ordered as in the store. -/
theorem blt_append_left (p a b : Bytes) : blt (p ++ a) (p ++ b) = blt a b := by
  induction p with
  | nil => rfl
  | cons x xs ih =>
    rw [← ih, Bool.eq_iff_iff, blt_iff_lt, blt_iff_lt]
    exact List.cons_lt_cons_self

/-! non-vacuity: pages of size 2 over five entries -/
example : ((List.range 3).map fun i => (([1, 2, 3, 4, 5] : List Nat).drop (i * 2)).take 2).flatten = [1, 2, 3, 4, 5] := by decide +kernel

end Cctp.C19
