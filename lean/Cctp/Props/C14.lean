import Cctp.Lemmas.Batch
import Cctp.Spec.Toy
import Cctp.Props.C04
/-
  C14 — transfers are all-or-nothing under dependency failures.
  Proved about the handlers for ALL fault plans; the rollback itself is `deliver`'s definition, i.e. the
  SDK's branch-and-discard contract (assumed, and exercised for real by the harness's CacheContext).
-/
namespace Cctp.C14
open Cctp.Spec

/-- **A deposit never succeeds without the debit and the burn both having succeeded and a message having
    been emitted.** -/
theorem deposit_ok_needs_all (ext : Ext) (cfg : Cfg) (st : Store) (led : Ledger) (f : Bytes) (amount : Option Int) (dest : Nat)
    (rcp tok caller : Bytes) (o : Out) (h : depositForBurn ext cfg st led f amount dest rcp tok caller = .ok o) :
    ∃ addr a bz, ext.accAddr f = some addr ∧ amount = some a ∧
      (led.transfer addr cfg.moduleAddr tok a).1 = true ∧
      ((led.transfer addr cfg.moduleAddr tok a).2.burn true cfg.moduleAddr tok a).1 = true ∧
      Event.messageSent bz ∈ o.events := by
  obtain ⟨addr, maddr, a, msgr, bz, body, s, rfl⟩ := depositForBurn_shape h
  exact ⟨addr, a, bz, s.account, s.amount_eq, s.transfer, s.burn, List.mem_cons_self⟩

/-- **A receive of a module-addressed message never succeeds (consuming its nonce) unless the mint succeeded.** -/
theorem receive_ok_needs_mint (ext : Ext) (cfg : Cfg) (st : Store) (led : Ledger) (from_ msg att : Bytes) (o : Out)
    (h : handle ext cfg st led (.receiveMessage from_ msg att) = .ok o) (m : Message) (hd : decodeMessage msg = some m)
    (hrec : m.recipient = cfg.modulePadded) : Ledger.nextFault led = false ∧ ∃ d, d ∈ o.deps ∧ C04.isMint d = true := by
  obtain ⟨b, pair, msgr, rcp, s, rfl⟩ := receive_module_shape h hd hrec
  obtain ⟨_, _, hf, _⟩ := (Ledger.mint_ok_iff ..).1 s.minted
  exact ⟨hf, _, List.mem_cons_self, rfl⟩

/-- a deposit that succeeds met no fault: both bits it consumed, for the transfer and then for the burn, were clear. -/
theorem deposit_ok_no_fault {ext : Ext} {cfg : Cfg} {st : Store} {led : Ledger} {f : Bytes} {amount : Option Int} {dest : Nat}
    {rcp tok caller : Bytes} {o : Out} (h : depositForBurn ext cfg st led f amount dest rcp tok caller = .ok o) :
    led.faults.headD false = false ∧ led.faults.tail.headD false = false := by
  obtain ⟨addr, maddr, a, msgr, bz, body, s, _⟩ := depositForBurn_shape h
  obtain ⟨ht, _⟩ := (Ledger.transfer_ok_iff ..).1 s.transfer
  obtain ⟨hb, _⟩ := (Ledger.burn_ok_iff ..).1 s.burn
  rw [Ledger.nextFault_eq, Ledger.transfer_faults] at hb
  exact ⟨Ledger.nextFault_eq led ▸ ht, hb⟩

/-- **Any injected dependency failure is an error** — for every fault plan: the bank transfer failing … -/
theorem transfer_fault_is_err (ext : Ext) (cfg : Cfg) (st : Store) (led : Ledger) (f : Bytes) (amount : Option Int) (dest : Nat)
    (rcp tok caller : Bytes) (rest : List Bool) (hf : led.faults = true :: rest) :
    ∀ o, depositForBurn ext cfg st led f amount dest rcp tok caller ≠ .ok o := by
  intro o h
  have hn := (deposit_ok_no_fault h).1
  rw [hf] at hn
  cases hn

/-- … the burn failing … -/
theorem burn_fault_is_err (ext : Ext) (cfg : Cfg) (st : Store) (led : Ledger) (f : Bytes) (amount : Option Int) (dest : Nat)
    (rcp tok caller : Bytes) (b0 : Bool) (rest : List Bool) (hf : led.faults = b0 :: true :: rest) :
    ∀ o, depositForBurn ext cfg st led f amount dest rcp tok caller ≠ .ok o := by
  intro o h
  have hn := (deposit_ok_no_fault h).2
  rw [hf] at hn
  cases hn

/-- … and the mint failing. -/
theorem mint_fault_is_err (ext : Ext) (cfg : Cfg) (st : Store) (led : Ledger) (from_ msg att : Bytes) (m : Message)
    (hd : decodeMessage msg = some m) (hrec : m.recipient = cfg.modulePadded) (rest : List Bool)
    (hf : led.faults = true :: rest) : ∀ o, handle ext cfg st led (.receiveMessage from_ msg att) ≠ .ok o := by
  intro o h
  have hn := (receive_ok_needs_mint ext cfg st led from_ msg att o h m hd hrec).1
  rw [Ledger.nextFault_eq, hf] at hn
  cases hn

/-- **Late validation failures after the funds were moved are errors too**: with the send side paused, a
    body that does not fit, a malformed destination caller, a zero or short token messenger, or a mint
    recipient of the wrong length, the deposit does not succeed — whatever the bank and the burn said. -/
theorem late_failure_is_err (ext : Ext) (cfg : Cfg) (st : Store) (led : Ledger) (f : Bytes) (amount : Option Int) (dest : Nat)
    (rcp tok caller : Bytes)
    (hlate : sendPaused st = true ∨ (∃ mx, getSize st = some mx ∧ mx < 132) ∨
             (caller.length ≠ 0 ∧ (caller.length ≠ 32 ∨ caller = zeros 32)) ∨
             (∃ msgr, getMessenger st dest = some msgr ∧ (msgr.2.length ≠ 32 ∨ isZeros msgr.2 = true)) ∨ rcp.length ≠ 32) :
    ∀ o, depositForBurn ext cfg st led f amount dest rcp tok caller ≠ .ok o := by
  intro o h
  obtain ⟨addr, maddr, a, msgr, bz, body, s, _⟩ := depositForBurn_shape h
  rcases hlate with hl | ⟨mx, hmx, hlt⟩ | ⟨hc0, hc | hc⟩ | ⟨msgr', hm', hb | hb⟩ | hl
  · cases hl.symm.trans s.send.unpaused
  · exact Nat.not_le.mpr hlt (s.body_len ▸ s.send.fits mx hmx)
  · exact s.caller_ok.elim hc0 fun h => hc h.1
  · exact s.caller_ok.elim hc0 fun h => h.2 hc
  · cases s.messenger.symm.trans hm'
    exact hb s.send.rcp_len
  · cases s.messenger.symm.trans hm'
    cases s.send.rcp_ne.symm.trans hb
  · exact hl s.rcp_len

/-- **After the rollback, balances, supply, counters, used nonces and emitted events are exactly as before**:
    whenever any of the above makes the handler fail, `deliver` hands back the previous store and ledger and
    no events. -/
theorem failed_transfer_leaves_everything (ext : Ext) (cfg : Cfg) (w : World) (fl : List Bool) (m : Msg)
    (hf : (deliver ext cfg w fl m).2.fail ≠ none) :
    (deliver ext cfg w fl m).1.store = w.store ∧ (deliver ext cfg w fl m).1.ledger.bal = w.ledger.bal ∧
    (deliver ext cfg w fl m).1.ledger.supply = w.ledger.supply ∧ (deliver ext cfg w fl m).2.events = [] := by
  obtain ⟨e, he⟩ := deliver_failed hf
  rw [he]
  exact ⟨rfl, rfl, rfl, rfl⟩

/-- a panic inside the handler is rolled back exactly like an error. -/
theorem panic_rolls_back_too (ext : Ext) (cfg : Cfg) (w : World) (fl : List Bool) (m : Msg)
    (hp : handle ext cfg w.store { w.ledger with faults := fl } m = .error .panic) :
    (deliver ext cfg w fl m).1.store = w.store ∧ (deliver ext cfg w fl m).2.fail = some .panic := by
  rw [deliver_error hp]; exact ⟨rfl, rfl⟩

/-! non-vacuity: the same deposit succeeds with a healthy bank and fails when the transfer, or the burn, fails; a receive
    fails when the mint does -/
example : Toy.isOk (handle Toy.ext Toy.cfg Toy.st Toy.led Toy.deposit) = true ∧
    Toy.isOk (handle Toy.ext Toy.cfg Toy.st { Toy.led with faults := [true] } Toy.deposit) = false ∧
    Toy.isOk (handle Toy.ext Toy.cfg Toy.st { Toy.led with faults := [false, true] } Toy.deposit) = false ∧
    Toy.isOk (handle Toy.ext Toy.cfg Toy.st { Toy.led with faults := [true] } Toy.receive) = false :=
  ⟨(Toy.isOk_iff _).mpr Toy.deposit_ok, by decide +kernel⟩

/-- **A transaction in which any message fails leaves everything exactly as before** — store, balances, supply —
    whatever the earlier messages of the same transaction did (moved funds, burnt, minted, reserved nonces,
    consumed inbound nonces), and reports no result (no response, no events). -/
theorem failed_tx_leaves_everything (ext : Ext) (cfg : Cfg) (w : World) (tx : Txn)
    (h : (deliverTx ext cfg w tx).2 = none) :
    (deliverTx ext cfg w tx).1.store = w.store ∧ (deliverTx ext cfg w tx).1.ledger.bal = w.ledger.bal ∧
    (deliverTx ext cfg w tx).1.ledger.supply = w.ledger.supply := by
  rw [deliverTx_failed (h := deliverTx_none.mp h)]
  exact ⟨rfl, rfl, rfl⟩

/-- a transaction fails as a whole exactly when some message fails on the branch built by the messages before it
    (all of which had succeeded there). -/
theorem tx_fails_iff (ext : Ext) (cfg : Cfg) (w : World) (tx : Txn) :
    (deliverTx ext cfg w tx).2 = none ↔
      ∃ (pre : Txn) (f : List Bool) (m : Msg) (post : Txn), tx = pre ++ (f, m) :: post ∧
        (∀ r ∈ (run ext cfg w pre).2, r.fail = none) ∧
        (deliver ext cfg (runState ext cfg w pre) f m).2.fail ≠ none := by
  rw [deliverTx_none, runMsgs_eq_none, run_fails_iff]

/-- a transaction that commits is exactly the sequence of its messages, each of which succeeded. -/
theorem committed_tx_is_its_messages (ext : Ext) (cfg : Cfg) (w : World) (tx : Txn) (rs : List TxResult)
    (h : (deliverTx ext cfg w tx).2 = some rs) :
    run ext cfg w tx = ((deliverTx ext cfg w tx).1, rs) ∧ ∀ r ∈ rs, r.fail = none :=
  runMsgs_eq_run ext cfg tx w _ rs (deliverTx_some.mp h)

/-- the machine the line-protocol driver runs (`begin`, messages, `end`) is this specification. -/
theorem driver_machine_is_deliverTx (ext : Ext) (cfg : Cfg) (w : World) (tx : Txn) :
    Chain.steps ext cfg { world := w, pending := none } tx.ops = { world := (deliverTx ext cfg w tx).1, pending := none } :=
  steps_tx ext cfg w tx

/-! non-vacuity: in the toy world a deposit followed by a message that fails is discarded as a whole -/
example : (deliverTx Toy.ext Toy.cfg ⟨Toy.st, Toy.led⟩ [([], Toy.deposit), ([], .acceptOwner [1])]).2.isNone = true ∧
    (deliverTx Toy.ext Toy.cfg ⟨Toy.st, Toy.led⟩ [([], Toy.deposit), ([], Toy.deposit)]).2.isSome = true := by
  decide +kernel

end Cctp.C14
