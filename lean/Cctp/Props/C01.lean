import Cctp.Lemmas.Attest
import Cctp.Lemmas.Handlers
import Cctp.Lemmas.Store
/-
  C01 — inbound messages need a quorum of distinct enabled attesters.
  "Recovers to key K" is what the theorems say; reading that as "K's owner signed" is ECDSA
  unforgeability, outside any proof.
-/
namespace Cctp.C01
open Cctp.Spec Gen

/-- the verifier's loop, from signature `i` on, accepts exactly the valid chunk sequences
    (while the uint32 offsets do not wrap, i.e. for every attestation shorter than 4 GiB). -/
theorem loop_ok_iff (ext : Ext) (d att : Bytes) (attesters : List Bytes) (t : Nat) (fuel i : Nat) (prev : Option Bytes)
    (hb : 65 * (i + fuel) ≤ att.length) (hlen : att.length < 2 ^ 32) :
    verifyLoop ext d att attesters t fuel i prev = .ok () ↔
      validChunks ext d attesters prev (chunks att i fuel) := by
  induction fuel generalizing i prev with
  | zero => exact ⟨fun _ => trivial, fun _ => rfl⟩
  | succ fuel ih =>
    have ih' := fun p => ih (i + 1) p (verifyLoop_bounds hb).2
    simp only [verifyLoop_succ (verifyLoop_bounds hb).1 hlen, chunks_succ, validChunks, guards, ih']

/-- **Soundness and completeness of the verifier**: it accepts exactly the valid attestations —
    no attestation gets through that is not a quorum (⇒), and every honestly built one is accepted (⇐). -/
theorem verify_ok_iff (ext : Ext) (msg att : Bytes) (attesters : List Bytes) (t : Nat) (hlen : att.length < 2 ^ 32) :
    verify ext msg att attesters t = .ok () ↔ ValidAttestation ext msg att attesters t := by
  have loop := fun (hl : att.length = 65 * t) =>
    loop_ok_iff ext (ext.keccak256 msg) att attesters t t 0 none (by rw [Nat.zero_add]; exact Nat.le_of_eq hl.symm) hlen
  simp only [verify, guards]
  exact ⟨fun ⟨hlen, hpos, hloop⟩ => ⟨hpos, hlen, (loop hlen).mp hloop⟩,
    fun h => ⟨h.length, h.threshold_pos, (loop h.length).mpr h.signatures⟩⟩

theorem valid_keys (ext : Ext) (d : Bytes) (attesters : List Bytes) (prev : Option Bytes) (cs : List Bytes)
    (h : validChunks ext d attesters prev cs) :
    (recoveredKeys ext d cs).length = cs.length ∧
    (∀ k ∈ recoveredKeys ext d cs, isAttester attesters k = true) ∧
    (∀ p, prev = some p → ∀ k ∈ recoveredKeys ext d cs, blt p (addrOf ext k) = true) ∧
    ((recoveredKeys ext d cs).map (addrOf ext)).Pairwise (fun a b => blt a b = true) := by
  induction cs generalizing prev with
  | nil => exact ⟨rfl, nofun, fun _ _ => nofun, .nil⟩
  | cons c cs ih =>
    obtain ⟨k, hk, hp, ha, hrest⟩ := h
    obtain ⟨i1, i2, i3, i4⟩ := ih _ hrest
    -- every later signer's address is above `k`'s, hence (transitivity) above `prev`
    have hlt : ∀ k' ∈ recoveredKeys ext d cs, blt (addrOf ext k) (addrOf ext k') = true := i3 _ rfl
    rw [show recoveredKeys ext d (c :: cs) = k :: recoveredKeys ext d cs from List.filterMap_cons_some hk]
    exact ⟨congrArg (· + 1) i1, List.forall_mem_cons.mpr ⟨ha, i2⟩,
      fun p e => List.forall_mem_cons.mpr ⟨hp p e, fun k' hk' => blt_trans (hp p e) (hlt k' hk')⟩,
      List.pairwise_cons.mpr ⟨List.forall_mem_map.mpr hlt, i4⟩⟩

/-- **No attestation gets a message through with fewer than threshold distinct enabled signers**:
    a valid attestation exhibits `t` recovered keys that are pairwise distinct (even their signer
    addresses are), each recovered from its own 65-byte chunk over keccak256(message), each enabled.
    A high-s twin, a duplicate or a reordering recovers to an address that is not strictly greater
    than its predecessor, so it cannot be part of such a sequence — the theorem needs no notion of malleation. -/
theorem valid_implies_t_distinct_enabled (ext : Ext) (msg att : Bytes) (attesters : List Bytes) (t : Nat)
    (h : ValidAttestation ext msg att attesters t) :
    let ks := recoveredKeys ext (ext.keccak256 msg) (chunks att 0 t)
    ks.length = t ∧ ks.Nodup ∧ (ks.map (addrOf ext)).Nodup ∧
    (∀ k ∈ ks, ∃ a ∈ attesters, fromHex a = k) ∧
    (∀ k ∈ ks, ∃ i < t, ext.ecrecover (ext.keccak256 msg) (normV (chunk att i)) = some k) := by
  obtain ⟨k1, k2, _, k4⟩ := valid_keys ext _ attesters none _ h.signatures
  -- strictly increasing addresses are distinct, and so are the keys they are computed from
  have hnd : ((recoveredKeys ext (ext.keccak256 msg) (chunks att 0 t)).map (addrOf ext)).Nodup := k4.imp blt_ne
  refine ⟨?_, hnd.of_map _ fun _ _ hne e => hne (congrArg _ e), hnd, fun k hk => ?_, fun k hk => ?_⟩
  · rw [k1, chunks, List.length_map, List.length_range]
  · obtain ⟨a, ha, e⟩ := List.any_eq_true.mp (k2 k hk)
    exact ⟨a, ha, eq_of_beq e⟩
  · obtain ⟨_, hc, hk⟩ := List.mem_filterMap.mp hk
    obtain ⟨i, hi, rfl⟩ := List.mem_map.mp hc
    exact ⟨i, List.mem_range.mp hi, Nat.zero_add i ▸ hk⟩

/-- truncated or padded attestations (any length other than 65·threshold) are rejected. -/
theorem wrong_length_rejected (ext : Ext) (msg att : Bytes) (attesters : List Bytes) (t : Nat)
    (h : att.length ≠ 65 * t) : verify ext msg att attesters t = .error .err :=
  (req_bind ..).trans (if_neg h)

/-- a zero threshold accepts nothing, not even the empty attestation. -/
theorem zero_threshold_rejected (ext : Ext) (msg att : Bytes) (attesters : List Bytes) :
    verify ext msg att attesters 0 ≠ .ok () := by
  simp only [verify, guards, not_true_eq_false, false_and, and_false]

/-- legacy recovery ids: 27/28 are read as 0/1, and 0/1 are left alone. -/
theorem normV_legacy (sig : Bytes) (v : UInt8) (hv : v = 27 ∨ v = 28) : normV (sig ++ [v]) = sig ++ [v - 27] := by
  unfold normV
  rw [List.getLast?_concat, List.dropLast_concat]
  exact if_pos hv

theorem normV_modern (sig : Bytes) (v : UInt8) (hv : v ≠ 27 ∧ v ≠ 28) : normV (sig ++ [v]) = sig ++ [v] := by
  unfold normV
  rw [List.getLast?_concat]
  exact if_neg (not_or.mpr hv)

/-- receive-message and replace-message verify against the attesters and threshold stored NOW. -/
theorem receive_uses_current_config (ext : Ext) (cfg : Cfg) (st : Store) (led : Ledger) (f msg att : Bytes) (o : Out)
    (hlen : att.length < 2 ^ 32) (h : handle ext cfg st led (.receiveMessage f msg att) = .ok o) :
    ∃ t, getThreshold st = some t ∧ ValidAttestation ext msg att (attestersOf st) t := by
  obtain ⟨_, _, t, ht, hv, _⟩ := (receiveMessage_ok ..).mp h
  exact ⟨t, ht, (verify_ok_iff ext msg att _ t hlen).mp hv⟩

theorem replace_uses_current_config (ext : Ext) (cfg : Cfg) (st : Store) (led : Ledger) (f orig att nb nc : Bytes) (o : Out)
    (hlen : att.length < 2 ^ 32) (h : handle ext cfg st led (.replaceMessage f orig att nb nc) = .ok o) :
    ∃ t, getThreshold st = some t ∧ ValidAttestation ext orig att (attestersOf st) t := by
  obtain ⟨_, t, ht, hv, _⟩ := (replaceMessage_ok ..).mp h
  exact ⟨t, ht, (verify_ok_iff ext orig att _ t hlen).mp hv⟩

theorem replace_deposit_uses_current_config (ext : Ext) (cfg : Cfg) (st : Store) (led : Ledger) (f orig att nc nr : Bytes) (o : Out)
    (hlen : att.length < 2 ^ 32) (h : handle ext cfg st led (.replaceDepositForBurn f orig att nc nr) = .ok o) :
    ∃ t, getThreshold st = some t ∧ ValidAttestation ext orig att (attestersOf st) t := by
  obtain ⟨_, _, _, hin, _⟩ := replaceDepositForBurn_inner h
  exact replace_uses_current_config ext cfg st led _ orig att _ _ _ hlen hin

/-- outside the guard: with more than 2^32 bytes of attestation the uint32 offsets of the loop wrap.
    Such an attestation cannot exist in a transaction (it exceeds every block size limit by orders of
    magnitude); the guard is stated rather than hidden. -/
theorem offsets_exact_below_4GiB (i : Nat) (h : 65 * i + 65 < 2 ^ 32) :
    u32 (i * SignatureLength) = 65 * i ∧ u32 (65 * i + SignatureLength) = 65 * i + 65 :=
  u32_offsets i h

/-! non-vacuity: with a toy Ext whose "recovery" reads the key off the signature, a two-signature
    attestation in increasing address order is valid; its reversal and a repeated signer are not accepted. -/
def toyExt : Ext := ⟨fun b => zeros 12 ++ b, fun _ sig => some (sig.take 2), fun _ => none, fun _ => none, id, fun _ _ => false,
  fun _ => false, id⟩

def outcome (r : R Unit) : Nat := match r with | .ok _ => 0 | .error .err => 1 | .error .panic => 2

example : outcome (verify toyExt [] (List.replicate 65 1 ++ List.replicate 65 2) [[48, 49, 48, 49], [48, 50, 48, 50]] 2) = 0 := by decide +kernel
example : outcome (verify toyExt [] (List.replicate 65 2 ++ List.replicate 65 1) [[48, 49, 48, 49], [48, 50, 48, 50]] 2) = 1 := by decide +kernel
example : outcome (verify toyExt [] (List.replicate 65 1 ++ List.replicate 65 1) [[48, 49, 48, 49], [48, 50, 48, 50]] 2) = 1 := by decide +kernel

end Cctp.C01
