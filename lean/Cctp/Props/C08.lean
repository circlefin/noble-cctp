import Cctp.Spec.Toy
import Cctp.Lemmas.Shapes
import Cctp.Native.Keccak
/-
  C08 — deposits are accepted exactly under the documented preconditions.
-/
namespace Cctp.C08
open Cctp.Spec Gen

/-- the documented preconditions of a deposit (`caller = []` is the variant without destination caller). -/
structure Pre (ext : Ext) (cfg : Cfg) (st : Store) (led : Ledger) (f : Bytes) (amount : Option Int) (dest : Nat)
    (rcp tok caller : Bytes) : Prop where
  ex : ∃ addr a msgr,
    ext.accAddr f = some addr ∧                                   -- the depositor is a valid account
    amount = some a ∧ 0 < a ∧ a < 2 ^ 256 ∧                       -- strictly positive (and a 256-bit value)
    (∀ l, getLimit st (ext.toLower tok) = some l → a ≤ l) ∧       -- at most the per-message limit, if any
    ext.equalFold led.mintingDenom tok = true ∧ ext.validDenom tok = true ∧   -- the minting denom
    rcp.length = 32 ∧ rcp ≠ zeros 32 ∧                            -- a non-zero 32-byte mint recipient
    getMessenger st dest = some msgr ∧ msgr.2.length = 32 ∧ isZeros msgr.2 = false ∧   -- a non-zero messenger
    burnPaused st = false ∧ sendPaused st = false ∧               -- neither pause flag
    (∀ mx, getSize st = some mx → 132 ≤ mx) ∧                     -- the 132-byte body fits
    (ext.accAddr cfg.moduleStr).isSome ∧                          -- (the module address string parses)
    (led.transfer addr cfg.moduleAddr tok a).1 = true ∧           -- the depositor can pay
    ((led.transfer addr cfg.moduleAddr tok a).2.burn true cfg.moduleAddr tok a).1 = true ∧   -- the burn succeeds
    (caller.length = 0 ∨ (caller.length = 32 ∧ caller ≠ zeros 32))   -- with-caller: non-zero 32-byte caller

/-- Named fact about the external hash (true of Keccak-256, never an axiom): digests are 32 bytes. -/
def KeccakLen (ext : Ext) : Prop := ∀ b, (ext.keccak256 b).length = 32

theorem sendCore_succeeds {st : Store} {dest : Nat} {rcp caller sender : Bytes} {nonce : Nat} {body : Bytes}
    (hp : sendPaused st = false) (hsz : ∀ mx, getSize st = some mx → ¬ body.length > mx)
    (hr : rcp.length = 32) (hz : isZeros rcp = false) (hc : caller.length = 32) (hs : sender.length = 32) :
    sendCore st dest rcp caller sender nonce body =
      .ok (Event.messageSent (encodeMessage (outMsg dest rcp caller sender nonce body))) :=
  (sendCore_ok ..).mpr ⟨hp, hsz, ⟨by rw [hr]; decide, hz⟩, _, C16.bytes_eq_spec _ hs hr hc, rfl⟩

theorem innerSend_succeeds {ext : Ext} {cfg : Cfg} {st : Store} (led : Ledger) (dest : Nat) {rcp body caller maddr : Bytes}
    (hm : ext.accAddr cfg.moduleStr = some maddr) (hp : sendPaused st = false)
    (hsz : ∀ mx, getSize st = some mx → ¬ body.length > mx) (hr : rcp.length = 32) (hz : isZeros rcp = false)
    (hc : caller.length = 0 ∨ (caller.length = 32 ∧ caller ≠ zeros 32)) :
    ∃ o, innerSend ext cfg st led dest rcp body caller = .ok o := by
  unfold innerSend
  rcases hc with hc | ⟨hc1, hc2⟩
  · rw [if_pos hc]
    exact ⟨_, (sendMessage_ok ..).mpr ⟨maddr, hm, _, sendCore_succeeds hp hsz hr hz (zeros_length _) (pad12_length _), rfl⟩⟩
  · rw [if_neg (by rw [hc1]; decide)]
    exact ⟨_, (sendMessageWithCaller_ok ..).mpr
      ⟨maddr, hm, ⟨hc1, hc2⟩, _, sendCore_succeeds hp hsz hr hz hc1 (pad12_length _), rfl⟩⟩

/-- **A deposit succeeds exactly when the preconditions hold.** -/
theorem deposit_ok_iff (ext : Ext) (cfg : Cfg) (st : Store) (led : Ledger) (f : Bytes) (amount : Option Int) (dest : Nat)
    (rcp tok caller : Bytes) (hk : KeccakLen ext) :
    (∃ o, depositForBurn ext cfg st led f amount dest rcp tok caller = .ok o) ↔
      Pre ext cfg st led f amount dest rcp tok caller := by
  constructor
  · rintro ⟨o, h⟩
    obtain ⟨addr, maddr, a, msgr, bz, body, s, _⟩ := depositForBurn_shape h
    exact ⟨addr, a, msgr, s.account, s.amount_eq, s.pos, s.lt, s.limit, s.denom, s.valid, s.rcp_len, s.rcp_ne, s.messenger,
      s.send.rcp_len, s.send.rcp_ne, s.unpaused, s.send.unpaused, fun mx hmx => s.body_len ▸ s.send.fits mx hmx,
      Option.isSome_iff_exists.mpr ⟨_, s.send.account⟩, s.transfer, s.burn, s.caller_ok⟩
  · rintro ⟨addr, a, msgr, hacc, rfl, hpos, hlt, hlim, hden, hval, hrl, hrz, hmsgr, hml, hmz, hbp, hsp, hfit, hmod, htr, hbu, hc⟩
    obtain ⟨maddr, hma⟩ := Option.isSome_iff_exists.mp hmod
    obtain ⟨n, rfl⟩ := Int.eq_ofNat_of_zero_le (Int.le_of_lt hpos)
    -- the burn body serialises (three 32-byte fields and a 256-bit amount) to 132 bytes, which fit
    have hb := C16.burn_bytes_eq_spec ⟨MessageBodyVersion, ext.keccak256 (ext.toLower tok), rcp, some n, pad12 addr⟩ n rfl
      (Int.ofNat_lt.mp hlt) (hk _) hrl (pad12_length _)
    have hblen := C16.burn_encode_length (ofModel ⟨MessageBodyVersion, ext.keccak256 (ext.toLower tok), rcp, some n, pad12 addr⟩)
      (hk _) hrl (pad12_length _)
    obtain ⟨inner, hinner⟩ := innerSend_succeeds ((led.transfer addr cfg.moduleAddr tok n).2.burn true cfg.moduleAddr tok n).2 dest
      hma hsp (fun mx hmx => by rw [hblen]; exact Nat.not_lt.mpr (hfit mx hmx)) hml hmz hc
    exact ⟨_, (depositForBurn_ok ..).mpr ⟨addr, hacc, n, rfl, hpos, hrz, msgr, hmsgr, hden, hbp,
      fun l hl => Int.not_lt.mpr (hlim l hl), hval, htr, hbu, _, hb, inner, hinner, rfl⟩⟩

/-- the with-caller transaction type additionally requires a destination caller to be given. -/
theorem deposit_with_caller_ok_iff (ext : Ext) (cfg : Cfg) (st : Store) (led : Ledger) (f : Bytes) (amount : Option Int)
    (dest : Nat) (rcp tok caller : Bytes) (hk : KeccakLen ext) :
    (∃ o, handle ext cfg st led (.depositForBurnWithCaller f amount dest rcp tok caller) = .ok o) ↔
      caller.length = 32 ∧ caller ≠ zeros 32 ∧ Pre ext cfg st led f amount dest rcp tok caller := by
  constructor
  · rintro ⟨o, h⟩
    obtain ⟨⟨h1, _⟩, h3⟩ := (depositForBurnWithCaller_ok ..).mp h
    obtain ⟨_, _, _, _, _, _, s, _⟩ := depositForBurn_shape h3
    rcases s.caller_ok with hc | ⟨hc1, hc2⟩
    · exact absurd hc h1
    · exact ⟨hc1, hc2, (deposit_ok_iff (hk := hk) ..).mp ⟨o, h3⟩⟩
  · rintro ⟨h1, h2, hp⟩
    obtain ⟨o, ho⟩ := (deposit_ok_iff (hk := hk) ..).mpr hp
    exact ⟨o, (depositForBurnWithCaller_ok ..).mpr ⟨⟨by rw [h1]; decide, h2⟩, ho⟩⟩

/-- the hypothesis `KeccakLen` is discharged for the executable instance the correspondence check runs: whatever the
    other external functions are, an `Ext` whose hash is the model's own Keccak-256 has 32-byte digests. -/
theorem native_keccakLen (ext : Ext) (h : ext.keccak256 = Native.keccak256) : KeccakLen ext := by
  intro b; rw [h]; exact Native.keccak256_length b

/-- … so for that instance the "exactly when" holds with no hypothesis about the hash left. -/
theorem deposit_ok_iff_native (ext : Ext) (hnat : ext.keccak256 = Native.keccak256) (cfg : Cfg) (st : Store) (led : Ledger)
    (f : Bytes) (amount : Option Int) (dest : Nat) (rcp tok caller : Bytes) :
    (∃ o, depositForBurn ext cfg st led f amount dest rcp tok caller = .ok o) ↔
      Pre ext cfg st led f amount dest rcp tok caller :=
  deposit_ok_iff (hk := native_keccakLen ext hnat) ..

/-- **amount = limit is accepted and amount = limit + 1 is rejected, for every limit**: the limit clause of
    the preconditions is `a ≤ l`, nothing else. -/
theorem limit_inclusive (l : Int) : (l ≤ l) ∧ ¬ (l + 1 ≤ l) := ⟨Int.le_refl l, by omega⟩

theorem limit_plus_one_rejected (ext : Ext) (cfg : Cfg) (st : Store) (led : Ledger) (f : Bytes) (dest : Nat)
    (rcp tok caller : Bytes) (l : Int) (hl : getLimit st (ext.toLower tok) = some l) :
    ∀ o, depositForBurn ext cfg st led f (some (l + 1)) dest rcp tok caller ≠ .ok o := by
  intro o h
  obtain ⟨_, _, a, _, _, _, s, _⟩ := depositForBurn_shape h
  cases s.amount_eq
  exact (limit_inclusive l).2 (s.limit l hl)

/-- the limit is looked up under the LOWER-CASED token, whatever spelling the request uses. -/
theorem limit_lookup_lowercased (ext : Ext) (cfg : Cfg) (st : Store) (led : Ledger) (f : Bytes) (a : Int) (dest : Nat)
    (rcp tok caller : Bytes) (o : Out) (h : depositForBurn ext cfg st led f (some a) dest rcp tok caller = .ok o) :
    ∀ l, getLimit st (ext.toLower tok) = some l → a ≤ l := by
  obtain ⟨_, _, a', _, _, _, s, _⟩ := depositForBurn_shape h
  cases s.amount_eq; exact s.limit

/-- an absent amount, zero and negative amounts are rejected (with an error, see C20 for "not a panic"). -/
theorem nonpositive_rejected (ext : Ext) (cfg : Cfg) (st : Store) (led : Ledger) (f : Bytes) (amount : Option Int) (dest : Nat)
    (rcp tok caller : Bytes) (h : amount = none ∨ ∃ a, amount = some a ∧ a ≤ 0) :
    ∀ o, depositForBurn ext cfg st led f amount dest rcp tok caller ≠ .ok o := by
  intro o ho
  obtain ⟨_, _, a, _, _, _, s, _⟩ := depositForBurn_shape ho
  rcases h with rfl | ⟨a', rfl, hle⟩
  · cases s.amount_eq
  · cases s.amount_eq
    exact Int.not_lt.mpr hle s.pos

/-- body size boundary: a maximum body size of exactly 132 admits deposits, 131 does not. -/
theorem body_size_boundary : (132 ≤ 132) ∧ ¬ (132 ≤ 131) := by decide

/-! non-vacuity: the toy hash has 32-byte digests; a concrete deposit of 5 satisfies every precondition, one of 101 (over the
    configured limit of 100) does not, and one of exactly 100 does -/
theorem toy_keccakLen : KeccakLen Toy.ext := by
  intro b
  show ((b ++ zeros 32).take 32).length = 32
  rw [List.length_take, List.length_append, zeros_length]
  exact Nat.min_eq_left (Nat.le_add_left ..)
example : Pre Toy.ext Toy.cfg Toy.st Toy.led Toy.alice (some 5) 0 (List.replicate 32 9) Toy.denom [] :=
  (deposit_ok_iff (hk := toy_keccakLen) ..).mp Toy.deposit_ok
example : ¬ Pre Toy.ext Toy.cfg Toy.st Toy.led Toy.alice (some 101) 0 (List.replicate 32 9) Toy.denom [] := fun h =>
  absurd ((Toy.isOk_iff _).mpr ((deposit_ok_iff (hk := toy_keccakLen) ..).mpr h)) (by decide +kernel)
example : Pre Toy.ext Toy.cfg Toy.st Toy.led Toy.alice (some 100) 0 (List.replicate 32 9) Toy.denom [] :=
  (deposit_ok_iff (hk := toy_keccakLen) ..).mp ((Toy.isOk_iff _).mp (by decide +kernel))

end Cctp.C08
