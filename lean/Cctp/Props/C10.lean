import Cctp.Lemmas.Frame
/-
  C10 — privileged actions require the matching role.
  `roleKey` and `privileged` are defined in Lemmas/Writes.lean, where the shape the 18 privileged handlers share is proved.
  No finiteness assumption on the account universe: the proofs never enumerate accounts.
-/
namespace Cctp.C10

/-- **A privileged transaction that succeeds was submitted by the current holder of its role.** -/
theorem success_requires_role (ext : Ext) (cfg : Cfg) (st : Store) (led : Ledger) (m : Msg) (k : Bytes) (o : Out)
    (hk : roleKey m = some k) (h : handle ext cfg st led m = .ok o) : getRole st k = some m.from_ :=
  (handle_admin hk h).1

/-- **Every other submitter** — holders of the other roles, the previous holder, anyone — **fails and
    changes nothing**: store, ledger and events after the transaction are those before it. -/
theorem unauthorised_fails (ext : Ext) (cfg : Cfg) (w : World) (f : List Bool) (m : Msg) (k : Bytes)
    (hk : roleKey m = some k) (hne : getRole w.store k ≠ some m.from_) :
    (deliver ext cfg w f m).2.fail ≠ none ∧ (deliver ext cfg w f m).1.store = w.store ∧
    (deliver ext cfg w f m).1.ledger = { w.ledger with faults := [] } ∧ (deliver ext cfg w f m).2.events = [] := by
  have hf : (deliver ext cfg w f m).2.fail ≠ none := fun h => by
    obtain ⟨o, ho⟩ := deliver_fail_none.mp h
    exact hne (handle_admin hk ho).1
  obtain ⟨e, he⟩ := deliver_failed hf
  rw [he] at hf ⊢
  exact ⟨hf, rfl, rfl, rfl⟩

/-- the unauthorised attempt does not even panic: it is an ordinary error as long as the role slot a
    handler reads first is set (which every initialised chain guarantees, see C20.reached_roles). -/
theorem unauthorised_is_error (ext : Ext) (cfg : Cfg) (st : Store) (led : Ledger) (f holder : Bytes)
    (hp : getRole st Key.pauser = some holder) (hne : holder ≠ f) :
    handle ext cfg st led (.pauseBurning f) = .error .err := by
  unfold handle setFlag
  rw [hp]
  -- `getMust (some holder)` evaluates to `pure holder`
  exact (req_bind ..).trans (if_neg hne)

/-- conversely the pauser's four actions always succeed (they have no other precondition) … -/
theorem pauser_actions_succeed (ext : Ext) (cfg : Cfg) (st : Store) (led : Ledger) (f : Bytes)
    (hp : getRole st Key.pauser = some f) :
    (∃ o, handle ext cfg st led (.pauseBurning f) = .ok o) ∧ (∃ o, handle ext cfg st led (.unpauseBurning f) = .ok o) ∧
    (∃ o, handle ext cfg st led (.pauseSending f) = .ok o) ∧ (∃ o, handle ext cfg st led (.unpauseSending f) = .ok o) :=
  have ok : ∀ k v kind, ∃ o, setFlag st led k v kind f = .ok o := fun _ _ _ => ⟨_, (setFlag_ok ..).mpr ⟨hp, rfl⟩⟩
  ⟨ok .., ok .., ok .., ok ..⟩

/-- … as do the owner's and the token controller's unconditional actions. -/
theorem owner_body_size_succeeds (ext : Ext) (cfg : Cfg) (st : Store) (led : Ledger) (f : Bytes) (n : Nat)
    (ho : getRole st Key.owner = some f) : ∃ o, handle ext cfg st led (.updateMaxMessageBodySize f n) = .ok o :=
  ⟨_, (updateMaxMessageBodySize_ok ..).mpr ⟨ho, rfl⟩⟩

theorem controller_limit_succeeds (ext : Ext) (cfg : Cfg) (st : Store) (led : Ledger) (f l : Bytes) (a : Option Int)
    (ht : getRole st Key.tokenController = some f) : ∃ o, handle ext cfg st led (.setMaxBurnAmountPerMessage f l a) = .ok o :=
  ⟨_, (setMaxBurnAmountPerMessage_ok ..).mpr ⟨ht, rfl⟩⟩

/-- the 18 privileged types, and only they, have a role. -/
theorem privileged_count :
    ([Msg.acceptOwner [], .addRemoteTokenMessenger [] 0 [], .disableAttester [] [], .enableAttester [] [],
      .linkTokenPair [] 0 [] [], .pauseBurning [], .pauseSending [], .removeRemoteTokenMessenger [] 0,
      .unlinkTokenPair [] 0 [] [], .unpauseBurning [], .unpauseSending [], .updateOwner [] [],
      .updateAttesterManager [] [], .updateTokenController [] [], .updatePauser [] [],
      .updateMaxMessageBodySize [] 0, .setMaxBurnAmountPerMessage [] [] none, .updateSignatureThreshold [] 0].all privileged)
    = true ∧
    ([Msg.depositForBurn [] none 0 [] [], .depositForBurnWithCaller [] none 0 [] [] [], .receiveMessage [] [] [],
      .replaceDepositForBurn [] [] [] [] [], .replaceMessage [] [] [] [] [], .sendMessage [] 0 [] [],
      .sendMessageWithCaller [] 0 [] [] []].any privileged) = false := by decide


/-! non-vacuity: in a store with pauser [1], the role hypothesis holds of [1] and fails of [2] -/
example : getRole [(Key.pauser, .role [1])] Key.pauser ≠ some [2] := by decide +kernel
example : getRole [(Key.pauser, .role [1])] Key.pauser = some [1] := by decide +kernel

end Cctp.C10
