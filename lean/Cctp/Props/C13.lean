import Cctp.Lemmas.Batch
import Cctp.Props.C17
import Cctp.Lemmas.Readers
/-
  C13 — the enabled attesters can always meet the threshold.
  The count is of stored entries (two spellings of one key are two entries).
-/
namespace Cctp.C13

def count (st : Store) : Nat := (attestersOf st).length

/-- 1 ≤ threshold ≤ number of enabled attesters. -/
def Inv (st : Store) : Prop := ∃ t, getThreshold st = some t ∧ 1 ≤ t ∧ t ≤ count st

/-- Go's `uint32(len(attesters))` is the count, below 2^32 attesters … -/
theorem u32_count {st : Store} (hb : count st < 2 ^ 32) : u32 (attestersOf st).length = count st :=
  Nat.mod_eq_of_lt hb

/-- … and never more than the count: the two guards that compare with it err on the side of rejecting. -/
theorem u32_count_le (st : Store) : u32 (attestersOf st).length ≤ count st := Nat.mod_le _ _

theorem disable_guards {st : Store} {led : Ledger} {fr a : Bytes} {o : Out} (h : disableAttester st led fr a = .ok o) :
    (∃ x, getAttester st a = some x) ∧ count st ≠ 1 ∧ ∀ t, getThreshold st = some t → t < count st := by
  obtain ⟨_, _, hx, hne, t, ht, hgt, _⟩ := (disableAttester_ok ..).mp h
  exact ⟨hx, hne, fun t' ht' => Option.some.inj (ht.symm.trans ht') ▸ Nat.lt_of_lt_of_le (Nat.not_le.mp hgt) (u32_count_le st)⟩

theorem threshold_guards {st : Store} {led : Ledger} {fr : Bytes} {amount : Nat} {o : Out}
    (h : updateSignatureThreshold st led fr amount = .ok o) : amount ≠ 0 ∧ amount ≤ count st := by
  obtain ⟨_, hne, _, hle, _⟩ := (updateSignatureThreshold_ok ..).mp h
  exact ⟨hne, Nat.le_trans (Nat.le_of_not_gt hle) (u32_count_le st)⟩

theorem getAttester_none {ext : Ext} {st : Store} (hg : Good ext st) {a : Bytes} (h : getAttester st a = none) :
    st.get (Key.attester a) = none := by
  cases hv : st.get (Key.attester a) with
  | none => rfl
  | some v =>
    have hm := (hg.typed _ _ hv).cls_mem
    rw [Key.cls_attester] at hm
    cases v with
    | attester x => rw [getAttester, hv] at h; cases h
    | _ => exact (Bool.false_ne_true hm).elim

theorem count_set {st : Store} {a : Bytes} (h : st.get (Key.attester a) = none) :
    count (st.set (Key.attester a) (.attester a)) = count st + 1 :=
  Store.length_scan_filterMap_set _ _ h (isPrefixOf_item ..) rfl

theorem count_del {st : Store} {a x : Bytes} (h : st.get (Key.attester a) = some (.attester x)) :
    count (st.del (Key.attester a)) + 1 = count st :=
  Store.length_scan_filterMap_del _ _ h (isPrefixOf_item ..) rfl

/-- a transaction whose type writes neither attesters nor the threshold leaves both alone. -/
theorem unaffected (ext : Ext) (cfg : Cfg) (w : World) (f : List Bool) (m : Msg)
    (h10 : 10 ∉ docClasses m) (h9 : 9 ∉ docClasses m) :
    attestersOf (deliver ext cfg w f m).1.store = attestersOf w.store ∧
    getThreshold (deliver ext cfg w f m).1.store = getThreshold w.store := by
  refine ⟨?_, getThreshold_congr (get_deliver_of_cls (by rwa [Key.cls_threshold]))⟩
  cases hh : handle ext cfg w.store { w.ledger with faults := f } m with
  | ok o =>
    rw [deliver_ok hh]
    unfold attestersOf
    rw [Store.scan_applyAll_other _ _ _ fun wr hwr => Key.not_attester_prefix fun e => h10 (e ▸ handle_writes_cls hh wr hwr)]
  | error e => rw [deliver_error hh]

/-- the step of `inv_preserved`, for any number of attesters. -/
theorem inv_step (ext : Ext) (cfg : Cfg) (w : World) (f : List Bool) (m : Msg) (hg : Good ext w.store) (hi : Inv w.store) :
    Inv (deliver ext cfg w f m).1.store ∧ count (deliver ext cfg w f m).1.store ≤ count w.store + 1 := by
  -- does the type write attesters (class 10) or the threshold (class 9)?  Decided by evaluating its class list.
  cases hcl : (docClasses m).contains 10 || (docClasses m).contains 9 with
  | false =>
    obtain ⟨h10, h9⟩ := Bool.or_eq_false_iff.mp hcl
    obtain ⟨ha, hth⟩ := unaffected ext cfg w f m (not_mem_of_contains h10) (not_mem_of_contains h9)
    rw [Inv, count, ha, hth]
    exact ⟨hi, Nat.le_succ _⟩
  | true =>
    cases hh : handle ext cfg w.store { w.ledger with faults := f } m with
    | error e => rw [deliver_error hh]; exact ⟨hi, Nat.le_succ _⟩
    | ok o =>
      obtain ⟨t, ht, h1, h2⟩ := hi
      cases m with
      | enableAttester fr a =>
        obtain ⟨_, _, hnone, _⟩ := (enableAttester_ok ..).mp hh
        rw [deliver_store_set hh rfl, Inv, count_set (getAttester_none hg hnone),
          getThreshold_congr (Store.get_set_other _ _ _ _ (Key.ne_of_cls (by simp))), ht]
        exact ⟨⟨t, rfl, h1, Nat.le_succ_of_le h2⟩, Nat.le_refl _⟩
      | disableAttester fr a =>
        obtain ⟨⟨y, hy⟩, _, hlt⟩ := disable_guards hh
        have hc := count_del (getAttester_some.mp hy)
        rw [deliver_store_del hh rfl, Inv, ← hc, getThreshold_congr (Store.get_del_other _ _ _ (Key.ne_of_cls (by simp))), ht]
        exact ⟨⟨t, rfl, h1, Nat.le_of_lt_succ (Nat.lt_of_lt_of_eq (hlt t ht) hc.symm)⟩, Nat.le_succ_of_le (Nat.le_succ _)⟩
      | updateSignatureThreshold fr amount =>
        obtain ⟨hne0, hle⟩ := threshold_guards hh
        rw [deliver_store_set hh rfl, Inv, count, attestersOf, Store.scan_set_other _ _ _ _ (Key.not_attester_prefix (by simp)),
          getThreshold_some.mpr (Store.get_set_same ..)]
        exact ⟨⟨amount, rfl, Nat.pos_of_ne_zero hne0, hle⟩, Nat.le_succ _⟩
      | _ => exact (Bool.false_ne_true hcl).elim

/-- **The inequality is inductive**: every transaction of every type, accepted or rejected, preserves it. -/
theorem inv_preserved (ext : Ext) (cfg : Cfg) (w : World) (f : List Bool) (m : Msg)
    (hg : Good ext w.store) (hb : count w.store < 2 ^ 32) (hi : Inv w.store) :
    Inv (deliver ext cfg w f m).1.store ∧ count (deliver ext cfg w f m).1.store ≤ count w.store + 1 :=
  inv_step ext cfg w f m hg hi

/-- … hence it holds after every history. -/
theorem inv_run (ext : Ext) (cfg : Cfg) (h : History) (w : World) (hg : Good ext w.store)
    (hb : count w.store + h.length < 2 ^ 32) (hi : Inv w.store) : Inv (runState ext cfg w h).store :=
  run_inv_good Inv (fun w f m hg hi => (inv_step ext cfg w f m hg hi).1) h w hg hi

/-- the invariant over any list of multi-message transactions (an enable + threshold update + disable may share a
    transaction; a transaction that fails changes nothing). -/
theorem inv_txs (ext : Ext) (cfg : Cfg) (txs : List Txn) (w : World) (hs : w.settle = w) (hg : Good ext w.store)
    (hb : count w.store + (committed ext cfg w txs).length < 2 ^ 32) (hi : Inv w.store) :
    Inv (runTxs ext cfg w txs).1.store := by
  rw [runTxs_flatten ext cfg txs w hs]
  exact inv_run ext cfg _ w hg hb hi

/-- **From genesis**: if the chain is initialised from a genesis whose own threshold lies between 1 and the number of
    its (distinct) attesters, then after any chain of multi-message transactions — any senders, any fault plans, failing
    or not — the threshold still lies between 1 and the number of enabled attesters.  Nothing about the state is assumed
    beyond what InitGenesis built. -/
theorem inv_from_genesis (ext : Ext) (cfg : Cfg) (g : Genesis) (st0 : Store) (led : Ledger) (txs : List Txn)
    (hl : led.faults = []) (hi : Genesis.init ext [] g = .ok st0) (h0 : Inv st0)
    (hb : count st0 + (committed ext cfg ⟨st0, led⟩ txs).length < 2 ^ 32) :
    Inv (runTxs ext cfg ⟨st0, led⟩ txs).1.store :=
  inv_txs ext cfg txs ⟨st0, led⟩ (settle_of_faults_nil hl) (C17.good_init ext g st0 hi) hb h0

/-- the last attester can never be disabled. -/
theorem last_attester_kept (st : Store) (led : Ledger) (fr a : Bytes) (h : count st = 1) :
    ∀ o, disableAttester st led fr a ≠ .ok o := by
  intro o ho
  obtain ⟨_, hne, _⟩ := disable_guards ho
  exact hne h

/-- an attester cannot be disabled when that would leave fewer than threshold. -/
theorem disable_below_threshold_rejected (st : Store) (led : Ledger) (fr a : Bytes) (t : Nat)
    (hb : count st < 2 ^ 32) (ht : getThreshold st = some t) (h : count st ≤ t) :
    ∀ o, disableAttester st led fr a ≠ .ok o := by
  intro o ho
  obtain ⟨_, _, hlt⟩ := disable_guards ho
  exact Nat.not_le.mpr (hlt t ht) h

theorem threshold_zero_rejected (st : Store) (led : Ledger) (fr : Bytes) :
    ∀ o, updateSignatureThreshold st led fr 0 ≠ .ok o :=
  fun _ ho => (threshold_guards ho).1 rfl

theorem threshold_above_count_rejected (st : Store) (led : Ledger) (fr : Bytes) (amount : Nat)
    (hb : count st < 2 ^ 32) (h : count st < amount) : ∀ o, updateSignatureThreshold st led fr amount ≠ .ok o :=
  fun _ ho => Nat.not_le.mpr h (threshold_guards ho).2

/-- threshold = number of attesters is accepted (the boundary the test-suite never visits). -/
theorem threshold_eq_count_accepted (st : Store) (led : Ledger) (fr : Bytes)
    (hm : getRole st Key.attesterManager = some fr) (hb : count st < 2 ^ 32) (hpos : 0 < count st)
    (hne : count st ≠ (getThreshold st).getD 0) : ∃ o, updateSignatureThreshold st led fr (count st) = .ok o :=
  ⟨_, (updateSignatureThreshold_ok ..).mpr ⟨hm, Nat.ne_of_gt hpos, hne, u32_count hb ▸ Nat.lt_irrefl _, rfl⟩⟩

/-- enabling an already enabled attester, and disabling an unknown one, are rejected without effect. -/
theorem enable_duplicate_rejected_no_effect (ext : Ext) (cfg : Cfg) (w : World) (f : List Bool) (fr a : Bytes)
    (h : (getAttester w.store a).isSome) :
    (deliver ext cfg w f (.enableAttester fr a)).2.fail ≠ none ∧
    (deliver ext cfg w f (.enableAttester fr a)).1.store = w.store := by
  have hf : (deliver ext cfg w f (.enableAttester fr a)).2.fail ≠ none := fun hok => by
    obtain ⟨o, ho⟩ := deliver_fail_none.mp hok
    obtain ⟨_, _, hnone, _⟩ := (enableAttester_ok ..).mp ho
    rw [hnone] at h
    cases h
  exact ⟨hf, deliver_failed_store hf⟩

theorem disable_unknown_rejected_no_effect (ext : Ext) (cfg : Cfg) (w : World) (f : List Bool) (fr a : Bytes)
    (h : getAttester w.store a = none) :
    (deliver ext cfg w f (.disableAttester fr a)).2.fail ≠ none ∧
    (deliver ext cfg w f (.disableAttester fr a)).1.store = w.store := by
  have hf : (deliver ext cfg w f (.disableAttester fr a)).2.fail ≠ none := fun hok => by
    obtain ⟨o, ho⟩ := deliver_fail_none.mp hok
    obtain ⟨⟨x, hx⟩, _⟩ := disable_guards ho
    cases h.symm.trans hx
  exact ⟨hf, deliver_failed_store hf⟩

/-! non-vacuity: a concrete state with two attesters and threshold 2 satisfies the invariant -/
example : Inv [(Key.attester [1], .attester [1]), (Key.attester [2], .attester [2]), (Key.threshold, .threshold 2)] :=
  ⟨2, by decide +kernel, by decide +kernel, by decide +kernel⟩

end Cctp.C13
