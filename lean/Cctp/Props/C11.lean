import Cctp.Lemmas.Batch
import Cctp.Spec.Roles
import Cctp.Lemmas.Typed
import Cctp.Lemmas.Readers
/-
  C11 — role changes follow the documented lifecycle (refinement to the automaton of Spec/Roles.lean).
-/
namespace Cctp.C11
open Cctp.Spec

/-- the roles as stored. -/
def abs (st : Store) : Roles :=
  ⟨getRole st Key.owner, getRole st Key.pendingOwner, getRole st Key.attesterManager, getRole st Key.pauser,
    getRole st Key.tokenController⟩

theorem abs_of_getRole {st : Store} {g : Bytes → Option Bytes} (h : ∀ k, getRole st k = g k) :
    abs st = ⟨g Key.owner, g Key.pendingOwner, g Key.attesterManager, g Key.pauser, g Key.tokenController⟩ := by
  simp only [abs, h]

section
variable {ext : Ext} {cfg : Cfg} {st : Store} {led : Ledger} {f n : Bytes} {w : World} {fl : List Bool} {m : Msg}

/-! the three handlers ask for exactly what the automaton's guards ask for -/

theorem updateOwner_ok_iff :
    (∃ o, updateOwner ext st led f n = .ok o) ↔ getRole st Key.owner = some f ∧ (ext.accAddr n).isSome := by
  simp only [updateOwner_ok, Option.isSome_iff_exists, exists_and_left, exists_and_right, exists_eq', and_true]

theorem acceptOwner_ok_iff :
    (∃ o, acceptOwner st led f = .ok o) ↔ (getRole st Key.owner).isSome ∧ getRole st Key.pendingOwner = some f := by
  refine ⟨fun ⟨_, ho⟩ => ?_, fun ⟨hc, h⟩ => ⟨_, (acceptOwner_ok ..).mpr ⟨_, (Option.some_get hc).symm, h, rfl⟩⟩⟩
  obtain ⟨_, hc, h, _⟩ := (acceptOwner_ok ..).mp ho
  exact ⟨hc ▸ rfl, h⟩

theorem updateRole_ok_iff {slot : Bytes} {kind : EvKind} :
    (∃ o, updateRole ext st led slot kind f n = .ok o) ↔
      getRole st Key.owner = some f ∧ (ext.accAddr n).isSome ∧ (getRole st slot).isSome := by
  refine ⟨fun ⟨_, ho⟩ => ?_, fun ⟨h, hn, hc⟩ =>
    ⟨_, (updateRole_ok ..).mpr ⟨h, _, (Option.some_get hn).symm, _, (Option.some_get hc).symm, rfl⟩⟩⟩
  obtain ⟨h, _, ha, _, hc, _⟩ := (updateRole_ok ..).mp ho
  exact ⟨h, ha ▸ rfl, hc ▸ rfl⟩

/-- a guarded step, seen from the store: if the handler succeeds exactly when `G` holds, the roles after the
    delivery are those after its writes if `G`, and the old ones otherwise. -/
theorem abs_deliver {G : Prop} [Decidable G] {r : Roles}
    (hG : (∃ o, handle ext cfg w.store { w.ledger with faults := fl } m = .ok o) ↔ G)
    (hr : abs (w.store.applyAll (writesOf ext w.store m)) = r) :
    abs (deliver ext cfg w fl m).1.store = if G then r else abs w.store := by
  cases hh : handle ext cfg w.store { w.ledger with faults := fl } m with
  | ok o => rw [deliver_store hh, if_pos (hG.mp ⟨o, hh⟩), hr]
  | error e =>
    rw [deliver_error hh, if_neg fun g => ?_]
    obtain ⟨o, ho⟩ := hG.mpr g
    cases ho.symm.trans hh

/-- the five role keys have the classes 0 to 4: a transaction that writes above them leaves the roles alone. -/
theorem abs_deliver_other (h : (docClasses m).all (4 < ·) = true) :
    abs (deliver ext cfg w fl m).1.store = abs w.store := by
  have e (k : Bytes) (hk : Key.cls k ≤ 4) : getRole (deliver ext cfg w fl m).1.store k = getRole w.store k :=
    getRole_congr (get_deliver_of_cls fun hm =>
      Nat.not_lt.mpr hk (of_decide_eq_true (List.all_eq_true.mp h _ hm)))
  simp only [abs, e Key.owner (by simp), e Key.pendingOwner (by simp), e Key.attesterManager (by simp),
    e Key.pauser (by simp), e Key.tokenController (by simp)]

end

/-- **Refinement**: whatever transaction is delivered — any type, any submitter, any outcome — the stored
    roles move exactly as the lifecycle automaton says. -/
theorem roles_refine (ext : Ext) (cfg : Cfg) (w : World) (f : List Bool) (m : Msg) (hg : Good ext w.store) :
    abs (deliver ext cfg w f m).1.store = roleStep ext (abs w.store) m := by
  -- an arm of `roleStep` is met by unification: its guard is the handler's success condition, its new roles are
  -- the slots read back after the write (`exact` evaluates the comparisons of the concrete keys)
  cases m with
  | updateOwner fr n => exact abs_deliver updateOwner_ok_iff (abs_of_getRole (getRole_set _ _ n))
  | acceptOwner fr =>
    exact abs_deliver acceptOwner_ok_iff (abs_of_getRole fun k =>
      (getRole_del (Store.wf_set _ _ _ hg.wf) _ k).trans (congrArg (ite _ none) (getRole_set ..)))
  | updateAttesterManager fr n | updatePauser fr n | updateTokenController fr n =>
    exact abs_deliver updateRole_ok_iff (abs_of_getRole (getRole_set _ _ n))
  | _ => exact abs_deliver_other rfl

/-- the automaton run over a history. -/
def roleRun (ext : Ext) (r : Roles) : History → Roles
  | [] => r
  | (_, m) :: h => roleRun ext (roleStep ext r m) h

/-- … and therefore over whole histories. -/
theorem roles_refine_run (ext : Ext) (cfg : Cfg) (h : History) (w : World) (hg : Good ext w.store) :
    abs (runState ext cfg w h).store = roleRun ext (abs w.store) h := by
  induction h generalizing w with
  | nil => rfl
  | cons fm rest ih =>
    obtain ⟨f, m⟩ := fm
    rw [runState_cons, ih _ (good_deliver ext cfg w f m hg), roles_refine ext cfg w f m hg]
    rfl

/-- over multi-message transactions the roles are those the automaton reaches on the messages of the committed
    transactions (so `UpdateOwner` and the nominee's `AcceptOwner` may share a transaction, and a role change
    inside a transaction that fails never happened). -/
theorem roles_refine_txs (ext : Ext) (cfg : Cfg) (txs : List Txn) (w : World) (hs : w.settle = w) (hg : Good ext w.store) :
    abs (runTxs ext cfg w txs).1.store = roleRun ext (abs w.store) (committed ext cfg w txs) := by
  rw [runTxs_flatten ext cfg txs w hs]
  exact roles_refine_run ext cfg _ w hg

/-- only the pending owner's acceptance makes them owner, and it clears the pending slot. -/
theorem accept_only_pending (ext : Ext) (r : Roles) (f : Bytes) (h : roleStep ext r (.acceptOwner f) ≠ r) :
    r.pending = some f ∧ roleStep ext r (.acceptOwner f) = { r with owner := some f, pending := none } := by
  by_cases hc : r.owner.isSome ∧ r.pending = some f
  · exact ⟨hc.2, if_pos hc⟩
  · exact absurd (if_neg hc) h

/-- a past acceptance cannot be replayed: right after an acceptance nobody can accept. -/
theorem accept_not_replayable (ext : Ext) (r : Roles) (f g : Bytes) (h : roleStep ext r (.acceptOwner f) ≠ r) :
    roleStep ext (roleStep ext r (.acceptOwner f)) (.acceptOwner g) = roleStep ext r (.acceptOwner f) := by
  rw [(accept_only_pending ext r f h).2]
  rfl

/-- naming a new pending owner supersedes the old one, who can then no longer accept. -/
theorem supersede (ext : Ext) (r : Roles) (o a b : Bytes) (ho : r.owner = some o)
    (hb : (ext.accAddr b).isSome) (hab : a ≠ b) :
    let r' := roleStep ext r (.updateOwner o b)
    r'.pending = some b ∧ roleStep ext r' (.acceptOwner a) = r' := by
  intro r'
  -- the nomination goes through and puts `b` in the pending slot; `a` is then not the pending owner
  have h1 : r' = { r with pending := some b } := if_pos ⟨ho, hb⟩
  rw [h1]
  exact ⟨rfl, if_neg fun hc => hab (Option.some.inj hc.2).symm⟩

/-- the current owner cannot complete the transfer in place of the pending owner. -/
theorem owner_cannot_self_accept (ext : Ext) (r : Roles) (o : Bytes) (ho : r.owner = some o) (hp : r.pending ≠ some o) :
    roleStep ext r (.acceptOwner o) = r :=
  if_neg fun hc => hp hc.2

/-- **What a step of the automaton can be**: nothing, or one of its five guarded updates. -/
inductive Step (ext : Ext) (r : Roles) : Msg → Roles → Prop
  | none (m : Msg) : Step ext r m r
  | nominate (f n : Bytes) : r.owner = some f → (ext.accAddr n).isSome →
      Step ext r (.updateOwner f n) { r with pending := some n }
  | accept (f : Bytes) : r.pending = some f → Step ext r (.acceptOwner f) { r with owner := some f, pending := none }
  | attesterManager (f n : Bytes) : r.owner = some f → (ext.accAddr n).isSome →
      Step ext r (.updateAttesterManager f n) { r with attesterManager := some n }
  | pauser (f n : Bytes) : r.owner = some f → (ext.accAddr n).isSome →
      Step ext r (.updatePauser f n) { r with pauser := some n }
  | tokenController (f n : Bytes) : r.owner = some f → (ext.accAddr n).isSome →
      Step ext r (.updateTokenController f n) { r with tokenController := some n }

theorem Step.ite {ext : Ext} {r r' : Roles} {m : Msg} {c : Prop} [Decidable c] (h : c → Step ext r m r') :
    Step ext r m (if c then r' else r) := by
  split
  next hc => exact h hc
  next => exact .none m

theorem roleStep_step {ext : Ext} {r r' : Roles} {m : Msg} (hs : roleStep ext r m = r') : Step ext r m r' := by
  subst hs
  cases m with
  | updateOwner f n => exact .ite fun hc => .nominate f n hc.1 hc.2
  | acceptOwner f => exact .ite fun hc => .accept f hc.2
  | updateAttesterManager f n => exact .ite fun hc => .attesterManager f n hc.1 hc.2.1
  | updatePauser f n => exact .ite fun hc => .pauser f n hc.1 hc.2.1
  | updateTokenController f n => exact .ite fun hc => .tokenController f n hc.1 hc.2.1
  | _ => exact .none _

theorem Step.keeps {ext : Ext} {r r' : Roles} {m : Msg} (hs : Step ext r m r')
    (h : r.owner.isSome ∧ r.attesterManager.isSome ∧ r.pauser.isSome ∧ r.tokenController.isSome) :
    r'.owner.isSome ∧ r'.attesterManager.isSome ∧ r'.pauser.isSome ∧ r'.tokenController.isSome := by
  cases hs with
  | none | nominate => exact h
  | accept => exact ⟨rfl, h.2⟩
  | attesterManager => exact ⟨h.1, rfl, h.2.2⟩
  | pauser => exact ⟨h.1, h.2.1, rfl, h.2.2.2⟩
  | tokenController => exact ⟨h.1, h.2.1, h.2.2.1, rfl⟩

/-- the other roles change only through the owner's update, only to syntactically valid addresses. -/
theorem other_roles_only_by_owner (ext : Ext) (r : Roles) (m : Msg)
    (h : (roleStep ext r m).attesterManager ≠ r.attesterManager ∨ (roleStep ext r m).pauser ≠ r.pauser ∨
         (roleStep ext r m).tokenController ≠ r.tokenController) :
    r.owner = some m.from_ ∧ ∃ n, (ext.accAddr n).isSome ∧
      (m = .updateAttesterManager m.from_ n ∨ m = .updatePauser m.from_ n ∨ m = .updateTokenController m.from_ n) := by
  generalize hs : roleStep ext r m = r' at h
  cases roleStep_step hs with
  | attesterManager f n ho hv => exact ⟨ho, n, hv, .inl rfl⟩
  | pauser f n ho hv => exact ⟨ho, n, hv, .inr (.inl rfl)⟩
  | tokenController f n ho hv => exact ⟨ho, n, hv, .inr (.inr rfl)⟩
  | _ => rcases h with h | h | h <;> exact absurd rfl h

/-- the owner slot changes only by an acceptance; the pending slot only by the owner's nomination or an acceptance. -/
theorem owner_changes_only_by_accept (ext : Ext) (r : Roles) (m : Msg) (h : (roleStep ext r m).owner ≠ r.owner) :
    m = .acceptOwner m.from_ ∧ r.pending = some m.from_ := by
  generalize hs : roleStep ext r m = r' at h
  cases roleStep_step hs with
  | accept f hp => exact ⟨rfl, hp⟩
  | _ => exact absurd rfl h

/-- no other transaction type alters any role. -/
theorem no_other_tx_touches_roles (ext : Ext) (r : Roles) (m : Msg)
    (h : ∀ f n, m ≠ .updateOwner f n ∧ m ≠ .updateAttesterManager f n ∧ m ≠ .updatePauser f n ∧ m ≠ .updateTokenController f n)
    (h' : ∀ f, m ≠ .acceptOwner f) : roleStep ext r m = r := by
  generalize hs : roleStep ext r m = r'
  cases roleStep_step hs with
  | none => rfl
  | nominate f n => exact absurd rfl (h f n).1
  | accept f => exact absurd rfl (h' f)
  | attesterManager f n => exact absurd rfl (h f n).2.1
  | pauser f n => exact absurd rfl (h f n).2.2.1
  | tokenController f n => exact absurd rfl (h f n).2.2.2

/-! non-vacuity: a full two-step transfer on a concrete state -/
example : let ext : Ext := ⟨id, fun _ _ => none, fun b => some b, fun b => some b, id, fun _ _ => false, fun _ => false, id⟩
    roleRun ext ⟨some [1], none, some [3], some [4], some [5]⟩
      [([], .updateOwner [1] [2]), ([], .acceptOwner [1]), ([], .acceptOwner [2]), ([], .acceptOwner [2])]
    = ⟨some [2], none, some [3], some [4], some [5]⟩ := by decide +kernel

end Cctp.C11
