import Cctp.Model.Consts
import Cctp.Gen.Constants
/-
  C16, the static half: the integer constants of x/cctp/types regenerated from /repo on every run (tie 1) have the
  values the model's codec is written against.  Names are compared up to the case of their first letter.
-/
namespace Cctp.C16
open Gen

/-- the constants the model uses, with the values it uses. -/
def modelledConstants : List (String × Nat) := [
  ("versionIndex", VersionIndex),
  ("sourceDomainIndex", SourceDomainIndex),
  ("destinationDomainIndex", DestinationDomainIndex),
  ("nonceIndex", NonceIndex),
  ("senderIndex", SenderIndex),
  ("recipientIndex", RecipientIndex),
  ("destinationCallerIndex", DestinationCallerIndex),
  ("messageBodyIndex", MessageBodyIndex),
  ("burnMsgVersionIndex", BurnMsgVersionIndex),
  ("versionLen", VersionLen),
  ("burnTokenIndex", BurnTokenIndex),
  ("burnTokenLen", BurnTokenLen),
  ("mintRecipientIndex", MintRecipientIndex),
  ("mintRecipientLen", MintRecipientLen),
  ("amountIndex", AmountIndex),
  ("amountLen", AmountLen),
  ("msgSenderIndex", MsgSenderIndex),
  ("msgSenderLen", MsgSenderLen),
  ("burnMessageLen", BurnMessageLen),
  ("nobleMessageVersion", NobleMessageVersion),
  ("messageBodyVersion", MessageBodyVersion),
  ("nobleDomainId", NobleDomainId),
  ("domainBytesLen", DomainBytesLen),
  ("usedNonceLen", UsedNonceLen),
  ("nonceBytesLen", NonceBytesLen),
  ("addressBytesLen", AddressBytesLen),
  ("destinationCallerLen", DestinationCallerLen),
  ("signatureLength", SignatureLength)]

/-- **Every layout constant the model relies on has, in the current source, the value the model gives it.** -/
theorem source_constants_as_modelled :
    (modelledConstants.all fun e => Gen.constantTable.lookup e.1 == some e.2) = true := by decide +kernel

end Cctp.C16
