import Cctp.Props.C01
import Cctp.Lemmas.Shapes
import Cctp.Lemmas.Frame
import Cctp.Spec.Toy
/-
  C09 — replacement can only re-target the submitter's own attested message.
-/
namespace Cctp.C09
open Cctp.Spec

/-- **Replace-message succeeds only for** an original that is validly attested under the CURRENT attester
    set and threshold, originated on Noble (source domain 4), and whose sender is the submitter — and only
    while sending is not paused. -/
theorem replace_ok_only_if (ext : Ext) (st : Store) (led : Ledger) (f orig att newBody newCaller : Bytes) (o : Out)
    (hlen : att.length < 2 ^ 32) (h : replaceMessage ext st led f orig att newBody newCaller = .ok o) :
    sendPaused st = false ∧
    ∃ t om addr, getThreshold st = some t ∧ ValidAttestation ext orig att (attestersOf st) t ∧
      decodeMessage orig = some om ∧ om.sourceDomain = 4 ∧ ext.accAddr f = some addr ∧ om.sender = pad12 addr := by
  obtain ⟨t, om, addr, bz, r, _⟩ := replaceMessage_shape h
  exact ⟨r.unpaused, t, om, addr, r.threshold, (C01.verify_ok_iff ext orig att _ t hlen).mp r.verified, r.original, r.source,
    r.account, r.sender⟩

/-- **The replacement keeps** the original's nonce, source and destination domains, sender and recipient
    **and changes only** body and destination caller (both decoded with the reference decoder). -/
theorem replace_preserves (ext : Ext) (st : Store) (led : Ledger) (f orig att newBody newCaller : Bytes) (o : Out)
    (h : replaceMessage ext st led f orig att newBody newCaller = .ok o) :
    ∃ om nm bz, decodeMessage orig = some om ∧ o.events = [Event.messageSent bz] ∧ decodeMessage bz = some nm ∧
      nm.nonce = om.nonce ∧ nm.sourceDomain = om.sourceDomain ∧ nm.destDomain = om.destDomain ∧
      nm.sender = om.sender ∧ nm.recipient = om.recipient ∧ nm.caller = newCaller ∧ nm.body = newBody ∧ nm.version = 0 := by
  obtain ⟨t, om, addr, bz, r, rfl⟩ := replaceMessage_shape h
  exact ⟨om, _, bz, r.original, rfl, r.wire, rfl, r.source.symm, rfl, rfl, rfl, rfl, rfl, rfl⟩

/-- **Replace-deposit-for-burn succeeds only for** a module-sent burn message whose depositor is the
    submitter, attested under the current configuration, with neither pause flag set and a non-zero
    32-byte new mint recipient. -/
theorem replace_deposit_ok_only_if (ext : Ext) (cfg : Cfg) (st : Store) (led : Ledger) (f orig att newCaller newRcp : Bytes)
    (o : Out) (hlen : att.length < 2 ^ 32) (h : replaceDepositForBurn ext cfg st led f orig att newCaller newRcp = .ok o) :
    burnPaused st = false ∧ sendPaused st = false ∧
    ∃ t om ob addr maddr, getThreshold st = some t ∧ ValidAttestation ext orig att (attestersOf st) t ∧
      decodeMessage orig = some om ∧ decodeBurn om.body = some ob ∧ om.sourceDomain = 4 ∧
      ext.accAddr cfg.moduleStr = some maddr ∧ om.sender = pad12 maddr ∧
      ext.accAddr f = some addr ∧ ob.messageSender = pad12 addr ∧ newRcp.length = 32 ∧ newRcp ≠ zeros 32 := by
  obtain ⟨t, om, ob, addr, maddr, bz, nbody, d, _⟩ := replaceDepositForBurn_shape h
  have r := d.replace
  exact ⟨d.unpaused, r.unpaused, t, om, ob, addr, maddr, r.threshold, (C01.verify_ok_iff ext orig att _ t hlen).mp r.verified,
    r.original, d.burn_body, r.source, r.account, r.sender, d.account, d.depositor, d.rcp_len, d.rcp_ne⟩

/-- **Its replacement additionally keeps** burn token, amount and depositor (and body version), **changing
    only** mint recipient and destination caller. -/
theorem replace_deposit_preserves (ext : Ext) (cfg : Cfg) (st : Store) (led : Ledger) (f orig att newCaller newRcp : Bytes)
    (o : Out) (h : replaceDepositForBurn ext cfg st led f orig att newCaller newRcp = .ok o) :
    ∃ om ob nm nb bz, decodeMessage orig = some om ∧ decodeBurn om.body = some ob ∧ Event.messageSent bz ∈ o.events ∧
      decodeMessage bz = some nm ∧ decodeBurn nm.body = some nb ∧
      nm.nonce = om.nonce ∧ nm.sourceDomain = om.sourceDomain ∧ nm.destDomain = om.destDomain ∧
      nm.sender = om.sender ∧ nm.recipient = om.recipient ∧ nm.caller = newCaller ∧
      nb.burnToken = ob.burnToken ∧ nb.amount = ob.amount ∧ nb.messageSender = ob.messageSender ∧
      nb.version = ob.version ∧ nb.mintRecipient = newRcp := by
  obtain ⟨t, om, ob, addr, maddr, bz, nbody, d, rfl⟩ := replaceDepositForBurn_shape h
  exact ⟨om, ob, _, _, bz, d.replace.original, d.burn_body, List.mem_cons_self, d.replace.wire, d.burn_wire, rfl,
    d.replace.source.symm, rfl, rfl, rfl, rfl, rfl, rfl, rfl, rfl, rfl⟩

/-- **Neither moves funds, consumes a nonce or changes any stored state** — at handler level, not merely
    after a rollback: no store write, no dependency call, the ledger handed back untouched. -/
theorem replace_no_effects (ext : Ext) (cfg : Cfg) (st : Store) (led : Ledger) (o : Out) :
    (∀ f orig att nb nc, handle ext cfg st led (.replaceMessage f orig att nb nc) = .ok o →
      o.writes = [] ∧ o.deps = [] ∧ o.ledger = led) ∧
    (∀ f orig att nc nr, handle ext cfg st led (.replaceDepositForBurn f orig att nc nr) = .ok o →
      o.writes = [] ∧ o.deps = [] ∧ o.ledger = led) :=
  ⟨fun _ _ _ _ _ h => ⟨handle_writes h, handle_no_deps rfl h⟩, fun _ _ _ _ _ h => ⟨handle_writes h, handle_no_deps rfl h⟩⟩

/-- at the transaction level: a replacement, successful or not, leaves store and ledger exactly as they were. -/
theorem replace_leaves_state (ext : Ext) (cfg : Cfg) (w : World) (fl : List Bool) (m : Msg)
    (hm : (∃ a b c d e, m = .replaceMessage a b c d e) ∨ (∃ a b c d e, m = .replaceDepositForBurn a b c d e)) :
    (deliver ext cfg w fl m).1.store = w.store ∧ (deliver ext cfg w fl m).1.ledger = { w.ledger with faults := [] } := by
  cases hh : handle ext cfg w.store { w.ledger with faults := fl } m with
  | error e => rw [deliver_error hh]; exact ⟨rfl, rfl⟩
  | ok o =>
    rw [deliver_ok hh, handle_writes hh]
    rcases hm with ⟨a, b, c, d, e, rfl⟩ | ⟨a, b, c, d, e, rfl⟩
    · rw [(handle_no_deps rfl hh).2]; exact ⟨rfl, rfl⟩
    · rw [(handle_no_deps rfl hh).2]; exact ⟨rfl, rfl⟩

/-- both respect the pause flags. -/
theorem replace_respects_pause (ext : Ext) (cfg : Cfg) (st : Store) (led : Ledger) :
    (sendPaused st = true → ∀ f og a b c o, handle ext cfg st led (.replaceMessage f og a b c) ≠ .ok o) ∧
    (sendPaused st = true → ∀ f og a c r o, handle ext cfg st led (.replaceDepositForBurn f og a c r) ≠ .ok o) ∧
    (burnPaused st = true → ∀ f og a c r o, handle ext cfg st led (.replaceDepositForBurn f og a c r) ≠ .ok o) := by
  refine ⟨fun hp f og a b c o h => ?_, fun hp f og a c r o h => ?_, fun hp f og a c r o h => ?_⟩
  · cases hp.symm.trans ((replaceMessage_ok ..).mp h).1
  · obtain ⟨_, _, _, hin, _⟩ := replaceDepositForBurn_inner h
    cases hp.symm.trans ((replaceMessage_ok ..).mp hin).1
  · cases hp.symm.trans ((replaceDepositForBurn_ok ..).mp h).1

/-! non-vacuity: alice replaces her own attested message; bob cannot -/
example : ∃ o, handle Toy.ext Toy.cfg Toy.st Toy.led Toy.replace = .ok o := Toy.replace_ok
example : Toy.isOk (handle Toy.ext Toy.cfg Toy.st Toy.led (.replaceMessage Toy.bob Toy.sentByAlice Toy.sig1 [9] (zeros 32))) = false := by
  decide +kernel

end Cctp.C09
