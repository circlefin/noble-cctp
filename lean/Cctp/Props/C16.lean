import Cctp.Spec.Layout
import Cctp.Lemmas.Bytes
import Cctp.Lemmas.Result
/-
  C16 — the wire encodings are the CCTP formats and round-trip exactly.
-/
namespace Cctp

/-- a message with its integer fields reduced to their wire width. -/
def Message.norm (m : Message) : Message :=
  { m with version := m.version % 2 ^ 32, sourceDomain := m.sourceDomain % 2 ^ 32, destDomain := m.destDomain % 2 ^ 32,
           nonce := m.nonce % 2 ^ 64 }

/-- a burn body with its integer fields reduced to their wire width. -/
def Spec.Burn.norm (b : Spec.Burn) : Spec.Burn :=
  { b with version := b.version % 2 ^ 32, amount := b.amount % 2 ^ 256 }

end Cctp

namespace Cctp.C16
open Cctp.Spec Cctp.Gen

/-- the offsets regenerated from /repo's constants.go are the CCTP offsets. -/
theorem gen_layout_is_cctp :
    (VersionIndex, SourceDomainIndex, DestinationDomainIndex, NonceIndex, SenderIndex, RecipientIndex,
      DestinationCallerIndex, MessageBodyIndex) = (0, 4, 8, 12, 20, 52, 84, 116)
    ∧ (BurnMsgVersionIndex, BurnTokenIndex, MintRecipientIndex, AmountIndex, MsgSenderIndex, BurnMessageLen)
      = (0, 4, 36, 68, 100, 132)
    ∧ (VersionLen, DomainBytesLen, NonceBytesLen, AddressBytesLen, BurnTokenLen, MintRecipientLen, AmountLen)
      = (4, 4, 8, 32, 32, 32, 32) := ⟨rfl, rfl, rfl⟩

/-- the module's decoder is the reference decoder, on every byte string. -/
theorem parse_eq_spec (bz : Bytes) :
    Message.parse bz = (match decodeMessage bz with | some m => .ok m | none => .error .err) := by
  simp only [Message.parse, req_bind, decodeMessage]
  -- `rw` decides the reference decoder's test; the module's, on `MessageBodyIndex`, is the same up to unfolding,
  -- which `exact` sees and `rw` would not (nor `simp`, which would leave the `Decidable` instance behind)
  by_cases h : bz.length < 116
  · rw [if_pos h]; exact if_neg (not_not_intro h)
  · rw [if_neg h]; exact if_pos h

theorem short_rejected (bz : Bytes) (h : bz.length < 116) : Message.parse bz = .error .err := by
  rw [parse_eq_spec, decodeMessage, if_pos h]

theorem field_exact (w : Nat) (src : Bytes) (h : src.length = w) : field w src = src := by
  subst h; simp [field, zeros]

/-- `Message.Bytes` in full: the reference encoding when the three address fields are 32 bytes, an error
    (never a misencoding) otherwise. -/
theorem bytes_eq (m : Message) : m.bytes =
    if m.sender.length = 32 ∧ m.recipient.length = 32 ∧ m.caller.length = 32 then .ok (encodeMessage m)
    else .error .err := by
  simp only [Message.bytes, req_bind, ite_ite_and]
  refine ite_congr rfl (fun h => ?_) (fun _ => rfl)
  simp only [encodeMessage, field_exact, be_length, h, SourceDomainIndex, VersionIndex, DestinationDomainIndex,
    NonceIndex, SenderIndex, RecipientIndex, DestinationCallerIndex, MessageBodyIndex, VersionLen, DomainBytesLen,
    NonceBytesLen, List.append_assoc]
  rfl

/-- the module's encoder is the reference encoder whenever the three address fields are 32 bytes … -/
theorem bytes_eq_spec (m : Message) (hs : m.sender.length = 32) (hr : m.recipient.length = 32)
    (hc : m.caller.length = 32) : m.bytes = .ok (encodeMessage m) := by
  rw [bytes_eq, if_pos ⟨hs, hr, hc⟩]

/-- … and is an error (never a misencoding) when any of them has another length. -/
theorem bytes_bad_field_size (m : Message)
    (h : ¬ (m.sender.length = 32 ∧ m.recipient.length = 32 ∧ m.caller.length = 32)) :
    m.bytes = .error .err := by
  rw [bytes_eq, if_neg h]

/-- the reference decoder reads back what the reference encoder wrote, integers reduced to their field width. -/
theorem encode_decode_norm (m : Message) (hs : m.sender.length = 32) (hr : m.recipient.length = 32)
    (hc : m.caller.length = 32) : decodeMessage (encodeMessage m) = some m.norm := by
  have hl : ¬ (encodeMessage m).length < 116 := by
    simp only [encodeMessage, List.length_append, be_length, hs, hr, hc]; omega
  rw [decodeMessage, if_neg hl]
  -- `drop k` passes every field that ends before offset `k`, then `take` cuts the next one off
  simp only [encodeMessage, Message.norm, drop_append_of_length_le, List.take_left', fromBE_be, be_length, hs, hr, hc,
    List.drop_zero, Nat.reduceLeDiff, Nat.reduceSub]

/-- every byte string with a full header is the encoding of a well-formed message: its fields, cut off one by one. -/
theorem exists_encode {bz : Bytes} (h : 116 ≤ bz.length) : ∃ m, WFMessage m ∧ encodeMessage m = bz := by
  obtain ⟨k, h⟩ := Nat.exists_eq_add_of_le' h
  obtain ⟨v, bz, rfl, hv, h⟩ := exists_append_of_length 4 h
  obtain ⟨sd, bz, rfl, hsd, h⟩ := exists_append_of_length 4 h
  obtain ⟨dd, bz, rfl, hdd, h⟩ := exists_append_of_length 4 h
  obtain ⟨n, bz, rfl, hn, h⟩ := exists_append_of_length 8 h
  obtain ⟨s, bz, rfl, hs, h⟩ := exists_append_of_length 32 h
  obtain ⟨r, bz, rfl, hr, h⟩ := exists_append_of_length 32 h
  obtain ⟨c, body, rfl, hc, -⟩ := exists_append_of_length 32 h
  exact ⟨⟨fromBE v, fromBE sd, fromBE dd, fromBE n, s, r, c, body⟩,
    ⟨fromBE_lt_of_length hv, fromBE_lt_of_length hsd, fromBE_lt_of_length hdd, fromBE_lt_of_length hn, hs, hr, hc⟩,
    by simp only [encodeMessage, be_fromBE hv, be_fromBE hsd, be_fromBE hdd, be_fromBE hn]⟩

/-- encode then decode: every well-formed message value is reproduced exactly. -/
theorem encode_decode (m : Message) (wf : WFMessage m) : decodeMessage (encodeMessage m) = some m := by
  rw [encode_decode_norm m wf.sender wf.recipient wf.caller, Message.norm, Nat.mod_eq_of_lt wf.version,
    Nat.mod_eq_of_lt wf.source, Nat.mod_eq_of_lt wf.dest, Nat.mod_eq_of_lt wf.nonce]

/-- decode then encode: every byte string with a full header is reproduced exactly. -/
theorem decode_encode (bz : Bytes) (h : 116 ≤ bz.length) :
    ∃ m, decodeMessage bz = some m ∧ encodeMessage m = bz ∧ WFMessage m := by
  obtain ⟨m, wf, rfl⟩ := exists_encode h
  exact ⟨m, encode_decode m wf, rfl, wf⟩

/-- what decodes is the encoding of a well-formed message (`decode_encode`), and decoding is a function. -/
theorem decode_wf {bz : Bytes} {m : Message} (h : decodeMessage bz = some m) : WFMessage m := by
  by_cases hl : bz.length < 116
  · rw [decodeMessage, if_pos hl] at h; cases h
  · obtain ⟨m', hd, -, wf⟩ := decode_encode bz (Nat.le_of_not_lt hl)
    exact Option.some.inj (hd.symm.trans h) ▸ wf

theorem burn_parse_eq_spec (bz : Bytes) :
    BurnMessage.parse bz = (match decodeBurn bz with | some b => .ok (toModel b) | none => .error .err) := by
  simp only [BurnMessage.parse, req_bind, decodeBurn]
  by_cases h : bz.length = 132
  · rw [if_neg (not_not_intro h)]; exact if_pos h
  · rw [if_pos h]; exact if_neg h

theorem burn_wrong_length_rejected (bz : Bytes) (h : bz.length ≠ 132) :
    BurnMessage.parse bz = .error .err := by
  rw [burn_parse_eq_spec, decodeBurn, if_pos h]

/-- `BurnMessage.Bytes` in full: an error when a byte field is not 32 bytes, else a panic on a nil amount
    or one of more than 256 bits, else the reference encoding (a negative amount is encoded by its
    magnitude, as `FillBytes` does). -/
theorem burn_bytes_eq (m : BurnMessage) : m.bytes =
    if m.burnToken.length = 32 ∧ m.mintRecipient.length = 32 ∧ m.messageSender.length = 32 then
      match m.amount with
      | some a => if a.natAbs < 2 ^ 256 then .ok (encodeBurn (ofModel m)) else .error .panic
      | none => .error .panic
    else .error .err := by
  simp only [BurnMessage.bytes, req_bind, ite_ite_and]
  refine ite_congr rfl (fun h => ?_) (fun _ => rfl)
  cases ha : m.amount with
  | none => rfl
  | some a =>
    simp only [getMust, must_bind]
    refine ite_congr rfl (fun _ => ?_) (fun _ => rfl)
    simp only [encodeBurn, ofModel, ha, Option.getD_some, field_exact, be_length, h, BurnTokenIndex,
      BurnMsgVersionIndex, MintRecipientIndex, AmountIndex, MsgSenderIndex, BurnMessageLen, VersionLen, AmountLen,
      List.append_assoc]
    rfl

/-- the module's burn-body encoder is the reference encoder on well-formed values. -/
theorem burn_bytes_eq_spec (m : BurnMessage) (a : Int) (ha : m.amount = some a) (hlt : a.natAbs < 2 ^ 256)
    (ht : m.burnToken.length = 32) (hr : m.mintRecipient.length = 32) (hs : m.messageSender.length = 32) :
    m.bytes = .ok (encodeBurn (ofModel m)) := by
  rw [burn_bytes_eq, if_pos ⟨ht, hr, hs⟩, ha]; exact if_pos hlt

theorem burn_bytes_bad_field_size (m : BurnMessage)
    (h : ¬ (m.burnToken.length = 32 ∧ m.mintRecipient.length = 32 ∧ m.messageSender.length = 32)) :
    m.bytes = .error .err := by
  rw [burn_bytes_eq, if_neg h]

theorem burn_encode_length (b : Burn) (ht : b.burnToken.length = 32) (hr : b.mintRecipient.length = 32)
    (hs : b.messageSender.length = 32) : (encodeBurn b).length = 132 := by
  simp only [encodeBurn, List.length_append, be_length, ht, hr, hs]

theorem burn_encode_decode_norm (b : Burn) (ht : b.burnToken.length = 32) (hr : b.mintRecipient.length = 32)
    (hs : b.messageSender.length = 32) : decodeBurn (encodeBurn b) = some b.norm := by
  rw [decodeBurn, if_neg (not_not_intro (burn_encode_length b ht hr hs))]
  simp only [encodeBurn, Burn.norm, drop_append_of_length_le, List.take_left', List.take_of_length_le, fromBE_be,
    be_length, ht, hr, hs, List.drop_zero, Nat.reduceLeDiff, Nat.reduceSub]

theorem burn_exists_encode {bz : Bytes} (h : bz.length = 132) : ∃ b, WFBurn b ∧ encodeBurn b = bz := by
  obtain ⟨v, bz, rfl, hv, h⟩ := exists_append_of_length 4 h
  obtain ⟨t, bz, rfl, ht, h⟩ := exists_append_of_length 32 h
  obtain ⟨r, bz, rfl, hr, h⟩ := exists_append_of_length 32 h
  obtain ⟨a, s, rfl, ha, hs⟩ := exists_append_of_length 32 h
  exact ⟨⟨fromBE v, t, r, fromBE a, s⟩, ⟨fromBE_lt_of_length hv, ht, hr, fromBE_lt_of_length ha, hs⟩,
    by simp only [encodeBurn, be_fromBE hv, be_fromBE ha]⟩

theorem burn_encode_decode (b : Burn) (wf : WFBurn b) : decodeBurn (encodeBurn b) = some b := by
  rw [burn_encode_decode_norm b wf.token wf.recipient wf.sender, Burn.norm, Nat.mod_eq_of_lt wf.version,
    Nat.mod_eq_of_lt wf.amount]

theorem burn_decode_encode (bz : Bytes) (h : bz.length = 132) :
    ∃ b, decodeBurn bz = some b ∧ encodeBurn b = bz ∧ WFBurn b := by
  obtain ⟨b, wf, rfl⟩ := burn_exists_encode h
  exact ⟨b, burn_encode_decode b wf, rfl, wf⟩

theorem burn_decode_wf {bz : Bytes} {b : Burn} (h : decodeBurn bz = some b) : WFBurn b := by
  by_cases hl : bz.length = 132
  · obtain ⟨b', hd, -, wf⟩ := burn_decode_encode bz hl
    exact Option.some.inj (hd.symm.trans h) ▸ wf
  · rw [decodeBurn, if_pos hl] at h; cases h

theorem parse_encode {m : Message} (wf : WFMessage m) : Message.parse (encodeMessage m) = .ok m := by
  rw [parse_eq_spec, encode_decode m wf]

/-- Decoding then encoding any byte string of valid length returns the same bytes. -/
theorem parse_bytes_roundtrip (bz : Bytes) (h : 116 ≤ bz.length) :
    ∃ m, Message.parse bz = .ok m ∧ m.bytes = .ok bz := by
  obtain ⟨m, wf, rfl⟩ := exists_encode h
  exact ⟨m, parse_encode wf, bytes_eq_spec m wf.sender wf.recipient wf.caller⟩

/-- Encoding then decoding any well-formed value returns the same value. -/
theorem bytes_parse_roundtrip (m : Message) (wf : WFMessage m) :
    ∃ bz, m.bytes = .ok bz ∧ Message.parse bz = .ok m :=
  ⟨_, bytes_eq_spec m wf.sender wf.recipient wf.caller, parse_encode wf⟩

theorem burn_parse_encode {b : Burn} (wf : WFBurn b) : BurnMessage.parse (encodeBurn b) = .ok (toModel b) := by
  rw [burn_parse_eq_spec, burn_encode_decode b wf]

theorem burn_bytes_toModel {b : Burn} (wf : WFBurn b) : (toModel b).bytes = .ok (encodeBurn b) :=
  burn_bytes_eq_spec (toModel b) _ rfl wf.amount wf.token wf.recipient wf.sender

theorem burn_parse_bytes_roundtrip (bz : Bytes) (h : bz.length = 132) :
    ∃ m, BurnMessage.parse bz = .ok m ∧ m.bytes = .ok bz := by
  obtain ⟨b, wf, rfl⟩ := burn_exists_encode h
  exact ⟨_, burn_parse_encode wf, burn_bytes_toModel wf⟩

theorem burn_bytes_parse_roundtrip (b : Burn) (wf : WFBurn b) :
    ∃ bz, (toModel b).bytes = .ok bz ∧ BurnMessage.parse bz = .ok (toModel b) :=
  ⟨_, burn_bytes_toModel wf, burn_parse_encode wf⟩

/-! ### non-vacuity: a concrete message and burn body meet the hypotheses (`WFMessage`, `WFBurn`) of the round trips -/

example : WFMessage ⟨0, 4, 1, 7, zeros 12 ++ List.replicate 20 1, List.replicate 32 2, zeros 32, [9, 9, 9]⟩ :=
  ⟨by decide +kernel, by decide +kernel, by decide +kernel, by decide +kernel, by decide +kernel, by decide +kernel,
    by decide +kernel⟩

example : WFBurn ⟨0, List.replicate 32 7, List.replicate 32 8, 2 ^ 255 + 5, List.replicate 32 9⟩ :=
  ⟨by decide +kernel, by decide +kernel, by decide +kernel, by decide +kernel, by decide +kernel⟩

end Cctp.C16
