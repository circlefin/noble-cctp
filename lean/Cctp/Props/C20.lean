import Cctp.Lemmas.Batch
import Cctp.Lemmas.NoPanic
import Cctp.Lemmas.Wire
import Cctp.Props.C11
import Cctp.Model.Queries
import Cctp.Model.Cli
import Cctp.Model.Genesis
import Cctp.Props.C17
/-
  C20 — no input crashes a handler, query, decoder or CLI address parser.
  PARTIAL: this is about the model, i.e. about the panics of the module's OWN code (nil dereferences,
  slice bounds, panicking getters, panicking constructors).  Panics inside library code reached through
  `Ext` (bech32, secp256k1, protobuf, IAVL) are outside the model; they are explored by the harness's
  recover() over the malformed-input stream, not proved.
-/
namespace Cctp.C20

/-- attestations are byte strings of a transaction: far below 4 GiB (the guard under which the
    verifier's uint32 offsets are exact, see C01.offsets_exact_below_4GiB). -/
def AttOK : Msg → Prop
  | .receiveMessage _ _ att | .replaceMessage _ _ att _ _ | .replaceDepositForBurn _ _ att _ _ => att.length < 2 ^ 32
  | _ => True

section
variable {ext : Ext} {cfg : Cfg} {st : Store} {led : Ledger} {f og att nb nc r b c t : Bytes} {d : Nat}

theorem replaceMessage_ne_panic (h : att.length < 2 ^ 32) : replaceMessage ext st led f og att nb nc ≠ .error .panic := by
  simp only [replaceMessage, guards, verify_ne_panic ext og att _ _ h, parse_ne_panic, sendCore_ne_panic]

theorem sendMessage_ne_panic : sendMessage ext st led f d r b ≠ .error .panic := by
  simp only [sendMessage, guards, sendCore_ne_panic]

theorem sendMessageWithCaller_ne_panic : sendMessageWithCaller ext st led f d r b c ≠ .error .panic := by
  simp only [sendMessageWithCaller, guards, sendCore_ne_panic]

/-- the deposit path: an ABSENT amount, a NEGATIVE or ZERO amount and an INVALID DENOM that only case-folds
    to the minting denom are all ordinary errors (these were panics before the fixes recorded in
    known_findings.jsonl). -/
theorem depositForBurn_ne_panic {a : Option Int} (hw : ∀ x, a = some x → x.natAbs < 2 ^ 256) :
    depositForBurn ext cfg st led f a d r t c ≠ .error .panic := by
  -- once address and amount are read, the body serialised has the request's amount
  unfold depositForBurn
  refine (getOr_bind_ne_panic ..).mpr fun _ _ => (getOr_bind_ne_panic ..).mpr fun x hx => ?_
  simp only [innerSend, guards, sendMessage_ne_panic, sendMessageWithCaller_ne_panic,
    fun b hb => burn_bytes_ne_panic b x hb (hw x hx)]

theorem mintBranch_ne_panic {m : Message} : mintBranch ext cfg st led m ≠ .error .panic := by
  simp only [mintBranch, guards, burn_parse_ne_panic]

theorem receiveMessage_ne_panic {msg : Bytes} (h : att.length < 2 ^ 32) :
    receiveMessage ext cfg st led f msg att ≠ .error .panic := by
  simp only [receiveMessage, checkCaller, mintOrSkip, guards, verify_ne_panic ext msg att _ _ h, parse_ne_panic,
    mintBranch_ne_panic]

theorem replaceDepositForBurn_ne_panic {nr : Bytes} (h : att.length < 2 ^ 32) :
    replaceDepositForBurn ext cfg st led f og att nc nr ≠ .error .panic := by
  simp only [replaceDepositForBurn, guards, parse_ne_panic, burn_parse_ne_panic, replaceMessage_ne_panic h]
  intro _ m _ b hb _ _ _ _
  -- the re-encoded body has the parsed (hence 256-bit, non-nil) amount
  obtain ⟨ob, rfl, _, wf⟩ := burn_parse_wf hb
  exact burn_bytes_ne_panic _ ob.amount rfl wf.amount

end

/-- **No transaction message panics a handler** in any state whose four role slots are set (every state
    reachable from an initialised genesis, see `reached_roles`), for every value of every field —
    absent amounts and byte fields, oversized values, non-ASCII strings, malformed addresses. -/
theorem no_panic_tx (ext : Ext) (cfg : Cfg) (st : Store) (led : Ledger) (m : Msg) (hr : RolesSet st) (ha : AttOK m)
    (hw : ∀ f a d r t, (m = .depositForBurn f a d r t ∨ ∃ c, m = .depositForBurnWithCaller f a d r t c) →
          ∀ x, a = some x → x.natAbs < 2 ^ 256) :
    handle ext cfg st led m ≠ .error .panic := by
  cases m with
  | depositForBurn f a d r t => exact depositForBurn_ne_panic (hw f a d r t (Or.inl rfl))
  | depositForBurnWithCaller f a d r t c =>
    exact bind_ne_panic _ _ (req_ne_panic _) fun _ _ => depositForBurn_ne_panic (hw f a d r t (Or.inr ⟨c, rfl⟩))
  | receiveMessage f msg att => exact receiveMessage_ne_panic ha
  | replaceDepositForBurn f og att nc nr => exact replaceDepositForBurn_ne_panic ha
  | replaceMessage f og att nb nc => exact replaceMessage_ne_panic ha
  | sendMessage f d r b => exact sendMessage_ne_panic
  | sendMessageWithCaller f d r b c => exact sendMessageWithCaller_ne_panic
  -- the 18 administrative handlers can panic only in their role getters
  | _ =>
    unfold handle
    simp only [acceptOwner, addRemoteTokenMessenger, removeRemoteTokenMessenger, enableAttester, disableAttester,
      updateSignatureThreshold, setFlag, linkTokenPair, unlinkTokenPair, setMaxBurnAmountPerMessage, updateOwner, updateRole,
      updateMaxMessageBodySize, guards, hr.owner, hr.attesterManager, hr.pauser, hr.tokenController]

/-- the four role slots stay set: the lifecycle automaton (C11) never empties owner, attester manager,
    pauser or token controller. -/
theorem roles_preserved (ext : Ext) (cfg : Cfg) (w : World) (f : List Bool) (m : Msg) (hg : Good ext w.store)
    (hr : RolesSet w.store) : RolesSet (deliver ext cfg w f m).1.store := by
  have hs := C11.roleStep_step (C11.roles_refine ext cfg w f m hg).symm
  -- with a variable for the new store the fields of `abs` unfold without `deliver` being looked into
  generalize (deliver ext cfg w f m).1.store = st' at hs ⊢
  obtain ⟨h1, h2, h3, h4⟩ := hs.keeps ⟨hr.1, hr.2, hr.3, hr.4⟩
  exact ⟨h1, h2, h3, h4⟩

theorem roles_run (ext : Ext) (cfg : Cfg) (h : History) (w : World) (hg : Good ext w.store) (hr : RolesSet w.store) :
    RolesSet (runState ext cfg w h).store :=
  run_inv_good RolesSet (roles_preserved ext cfg) h w hg hr

/-- the role slots stay set over any list of multi-message transactions, so `no_panic_tx` applies to every message
    of every transaction in every state a chain can reach (inside a transaction too: the branch a message runs on is
    `runState` of the messages before it). -/
theorem roles_txs (ext : Ext) (cfg : Cfg) (txs : List Txn) (w : World) (hs : w.settle = w) (hg : Good ext w.store)
    (hr : RolesSet w.store) : RolesSet (runTxs ext cfg w txs).1.store := by
  rw [runTxs_flatten ext cfg txs w hs]
  exact roles_run ext cfg _ w hg hr

/-- **Every byte string given to the message decoders yields a value or an error.** -/
theorem decoders_never_panic (bz : Bytes) :
    Message.parse bz ≠ .error .panic ∧ BurnMessage.parse bz ≠ .error .panic :=
  ⟨parse_ne_panic bz, burn_parse_ne_panic bz⟩

/-- the exported attestation verifier never panics on attestations below 4 GiB (it did, before the fix
    recorded in known_findings.jsonl, for thresholds ≥ 66 076 420: the uint32 product 65·t wrapped). -/
theorem verifier_never_panics (ext : Ext) (msg att : Bytes) (attesters : List Bytes) (t : Nat) (h : att.length < 2 ^ 32) :
    verify ext msg att attesters t ≠ .error .panic := verify_ne_panic ext msg att attesters t h

/-- **Every address argument given to the command-line client yields a result or an error**
    (one-character and empty arguments sliced out of range before the fix recorded in known_findings.jsonl). -/
theorem cli_parse_never_panics (ext : Ext) (s : Bytes) : parseAddress ext s ≠ .error .panic :=
  getOr_ne_panic _

/-- `query.Paginate` as the list queries call it panics in exactly one situation: reverse iteration from a
    key with exactly one entry at or after that key (`itr.Next(); itr.Key()` on an exhausted iterator).
    This is SDK library behaviour reached through the module's list queries — a KNOWN FINDING, confirmed on
    the real code by the correspondence run (both sides panic). -/
theorem paginate_panics_iff (all : List (Bytes × Val)) (rq : PageReq) :
    paginate all (some rq) = .error .panic ↔
      rq.reverse = true ∧ rq.key.length ≠ 0 ∧ ¬ (rq.offset > 0) ∧
      (all.filter fun kv => !(blt kv.1 rq.key)).length = 1 := by
  -- every path ends in `pure` except under the iterator match, which is left to `split`
  -- (`↓`: a step that ends in `pure` is dismissed before simp walks into the page it builds)
  simp only [paginate, Option.getD_some, ↓bind_panic, ↓req_ne_panic, ↓pure_ne_panic, ↓ite_panic, req_ok, exists_const, false_or,
    or_false, and_false]
  split
  next h => simp only [h, pure_bind, ↓ite_panic, ↓pure_ne_panic, and_false, or_false, List.length_nil, Nat.zero_ne_one]
  next x h =>
    simp only [h, throw_bind, List.length_singleton, and_true]
    exact ⟨fun ⟨hg, hr, hk⟩ => ⟨hr, hk, fun ho => hg ⟨ho, hk⟩⟩, fun ⟨hr, hk, ho⟩ => ⟨fun hg => ho hg.1, hr, hk⟩⟩
  next h =>
    simp only [h, pure_bind, ↓ite_panic, ↓pure_ne_panic, and_false, or_false, List.length_cons, Nat.add_eq_right, Nat.add_one_ne_zero]

/-- a nil page request never panics. -/
theorem paginate_nil_ok (all : List (Bytes × Val)) : paginate all none ≠ .error .panic :=
  -- `paginate` reads a nil request as the zero request
  fun h => Bool.false_ne_true ((paginate_panics_iff all ⟨[], 0, 0, false, false⟩).mp h).1

/-- **Every query request yields a result or an error** in a state with the four roles set, except for the
    paginate situation above. -/
theorem no_panic_query (ext : Ext) (st : Store) (nilReq : Bool) (q : Query) (hr : RolesSet st)
    (hp : ∀ p rq, (q = .attesters p ∨ q = .burnLimits p ∨ q = .tokenPairs p ∨ q = .usedNonces p ∨ q = .remoteTokenMessengers p) →
        p = some rq → ¬ (rq.reverse = true ∧ rq.key.length ≠ 0)) :
    query ext st nilReq q ≠ .error .panic := by
  have lq : ∀ pfx p, (∀ rq, p = some rq → ¬ (rq.reverse = true ∧ rq.key.length ≠ 0)) →
      (req (¬ nilReq) >>= fun _ => listQuery st pfx p) ≠ .error .panic := by
    intro pfx p hpp
    refine bind_ne_panic _ _ (req_ne_panic _) fun _ _ => bind_ne_panic _ _ ?_ fun _ _ => pure_ne_panic _
    cases p with
    | none => exact paginate_nil_ok _
    | some rq => exact fun h => hpp rq rfl (((paginate_panics_iff _ rq).mp h).imp_right And.left)
  cases q with
  | attesters p | burnLimits p | tokenPairs p | usedNonces p | remoteTokenMessengers p =>
    exact lq _ p fun rq => hp p rq (by simp only [true_or, or_true])
  | _ =>
    unfold query
    simp only [guards, hr.owner, hr.attesterManager, hr.pauser, hr.tokenController]

/-! non-vacuity: a state with the four roles set -/
example : RolesSet [(Key.attesterManager, .role [2]), (Key.owner, .role [1]), (Key.pauser, .role [3]), (Key.tokenController, .role [4])] :=
  ⟨by decide +kernel, by decide +kernel, by decide +kernel, by decide +kernel⟩

/-- a state the chain can be in: some genesis that initialises, then any chain of (multi-message) transactions with any
    fault plans of the dependencies. -/
def reached (ext : Ext) (cfg : Cfg) (g : Genesis) (st0 : Store) (led : Ledger) (txs : List Txn) : World :=
  (runTxs ext cfg ⟨st0, led⟩ txs).1

theorem reached_roles (ext : Ext) (cfg : Cfg) (g : Genesis) (st0 : Store) (led : Ledger) (txs : List Txn)
    (hl : led.faults = []) (hi : Genesis.init ext [] g = .ok st0) : RolesSet (reached ext cfg g st0 led txs).store :=
  roles_txs ext cfg txs ⟨st0, led⟩ (settle_of_faults_nil hl) (C17.good_init ext g st0 hi) (C17.init_roles_set ext g st0 hi).1

/-- **No transaction panics in any state reachable from an initialised genesis**, with no invariant left as a
    hypothesis: whatever the genesis (as long as InitGenesis itself accepts it), whatever chain of transactions and
    dependency failures led here, whatever message comes next and whatever its own fault plan — under the two bounds the
    wire imposes (an attestation shorter than 4 GiB, amounts of at most 256 bits). -/
theorem no_panic_reachable (ext : Ext) (cfg : Cfg) (g : Genesis) (st0 : Store) (led : Ledger) (txs : List Txn)
    (hl : led.faults = []) (hi : Genesis.init ext [] g = .ok st0) (f : List Bool) (m : Msg) (ha : AttOK m)
    (hw : ∀ fr a d r t, (m = .depositForBurn fr a d r t ∨ ∃ c, m = .depositForBurnWithCaller fr a d r t c) →
          ∀ x, a = some x → x.natAbs < 2 ^ 256) :
    (deliver ext cfg (reached ext cfg g st0 led txs) f m).2.fail ≠ some .panic := by
  have hr := reached_roles ext cfg g st0 led txs hl hi
  generalize reached ext cfg g st0 led txs = w at hr ⊢
  cases hh : handle ext cfg w.store { w.ledger with faults := f } m with
  | ok o => rw [deliver_ok hh]; exact fun h => nomatch h
  | error e => rw [deliver_error hh]; exact fun h => no_panic_tx ext cfg _ _ m hr ha hw (Option.some.inj h ▸ hh)

/-- … and no query does, except the one request shape of the known finding (reverse pagination from a key, SDK code). -/
theorem no_panic_query_reachable (ext : Ext) (cfg : Cfg) (g : Genesis) (st0 : Store) (led : Ledger) (txs : List Txn)
    (hl : led.faults = []) (hi : Genesis.init ext [] g = .ok st0) (nilReq : Bool) (q : Query)
    (hp : ∀ p rq, (q = .attesters p ∨ q = .burnLimits p ∨ q = .tokenPairs p ∨ q = .usedNonces p ∨ q = .remoteTokenMessengers p) →
        p = some rq → ¬ (rq.reverse = true ∧ rq.key.length ≠ 0)) :
    query ext (reached ext cfg g st0 led txs).store nilReq q ≠ .error .panic :=
  no_panic_query ext _ nilReq q (reached_roles ext cfg g st0 led txs hl hi) hp

/-! non-vacuity: the toy genesis initialises, so every state reached from it by any chain of transactions — here a
    deposit and a receive in one transaction, then a send — meets the hypotheses of `no_panic_reachable`; the next
    message (a replacement, a deposit with an absent amount) does not panic there -/
example : (deliver Toy.ext Toy.cfg (reached Toy.ext Toy.cfg Toy.genesis Toy.st Toy.led [[([], Toy.deposit), ([], Toy.receive)], [([], Toy.send)]])
    [] Toy.replace).2.fail ≠ some .panic :=
  no_panic_reachable Toy.ext Toy.cfg Toy.genesis Toy.st Toy.led _ rfl rfl [] Toy.replace (by decide +kernel : Toy.sig1.length < 2 ^ 32)
    (by rintro fr a d r t (h | ⟨c, h⟩) <;> cases h)
example : (deliver Toy.ext Toy.cfg (reached Toy.ext Toy.cfg Toy.genesis Toy.st Toy.led []) [true]
    (.depositForBurn Toy.alice none 0 (List.replicate 32 9) Toy.denom)).2.fail ≠ some .panic :=
  no_panic_reachable Toy.ext Toy.cfg Toy.genesis Toy.st Toy.led _ rfl rfl [true] _ trivial (by
    rintro fr a d r t (h | ⟨c, h⟩) x hx
    · cases h; cases hx
    · cases h)

end Cctp.C20
