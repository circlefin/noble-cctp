import Cctp.Lemmas.Batch
import Cctp.Spec.Toy
import Cctp.Lemmas.Registry
import Cctp.Lemmas.Readers
import Cctp.Lemmas.NoPanic
/-
  C17 — genesis import/export preserves state; validation rejects ambiguity.
-/
namespace Cctp.C17
open Gen Genesis

/-- `Validate` as the conjunction of its twelve checks, in source order. -/
theorem validate_iff (ext : Ext) (g : Genesis) : g.validate ext = true ↔
    roleOk ext g.owner = true ∧ roleOk ext g.attesterManager = true ∧ roleOk ext g.pauser = true ∧
    roleOk ext g.tokenController = true ∧ (g.attesters.map Key.attester).Nodup ∧ (g.limits.map fun l => Key.limit l.1).Nodup ∧
    g.burnPaused.isSome ∧ g.sendPaused.isSome ∧ (∀ p ∈ g.pairs, p.2.1.length = BurnTokenLen) ∧
    (g.pairs.map fun p => Key.tokenPair ext p.1 p.2.1).Nodup ∧ (g.used.map fun u => Key.usedNonce u.1 u.2).Nodup ∧
    (g.messengers.map fun m => Key.messenger m.1).Nodup := by
  simp only [validate, Bool.and_eq_true, noDup_iff, List.all_eq_true, decide_eq_true_eq, and_assoc]

/-- **Validation rejects any genesis in which two entries of a keyed list would occupy the same key**
    (for all five lists — the token-pair check consulted the wrong index map before the fix recorded in
    known_findings.jsonl), and requires both pause flags. -/
theorem validate_rejects_collisions (ext : Ext) (g : Genesis) (h : g.validate ext = true) :
    (g.attesters.map Key.attester).Nodup ∧ (g.limits.map fun l => Key.limit l.1).Nodup ∧
    (g.pairs.map fun p => Key.tokenPair ext p.1 p.2.1).Nodup ∧ (g.used.map fun u => Key.usedNonce u.1 u.2).Nodup ∧
    (g.messengers.map fun m => Key.messenger m.1).Nodup ∧ g.burnPaused.isSome ∧ g.sendPaused.isSome := by
  obtain ⟨_, _, _, _, hatt, hlim, hbp, hsp, _, hpairs, hused, hmsgr⟩ := (validate_iff ext g).mp h
  exact ⟨hatt, hlim, hpairs, hused, hmsgr, hbp, hsp⟩

/-- validation also rejects token pairs whose remote token is not 32 bytes (such a pair would be stored under
    a key that no query and no receive can derive — see known_findings.jsonl, fixed). -/
theorem validate_token_lengths (ext : Ext) (g : Genesis) (h : g.validate ext = true) :
    ∀ p ∈ g.pairs, p.2.1.length = 32 := by
  obtain ⟨_, _, _, _, _, _, _, _, hlen, _⟩ := (validate_iff ext g).mp h
  exact hlen

/-- the nine slots InitGenesis always fills. -/
def slotKeys : List Bytes :=
  [Key.owner, Key.attesterManager, Key.pauser, Key.tokenController, Key.burnPaused, Key.sendPaused, Key.maxBody,
   Key.nextNonce, Key.threshold]

/-- what InitGenesis stores in the nine slots: the given values, or the documented defaults (paused, 8000, 0, 1). -/
def slots (g : Genesis) : List (Bytes × Val) :=
  [ (Key.owner, .role g.owner), (Key.attesterManager, .role g.attesterManager), (Key.pauser, .role g.pauser),
    (Key.tokenController, .role g.tokenController), (Key.burnPaused, .flag (g.burnPaused.getD true)),
    (Key.sendPaused, .flag (g.sendPaused.getD true)), (Key.maxBody, .size (g.maxBody.getD 8000)),
    (Key.nextNonce, nonceVal g.nextNonce), (Key.threshold, .threshold (g.threshold.getD 1)) ]

theorem slots_keys (g : Genesis) : (slots g).map Prod.fst = slotKeys := rfl

/-- the keys of classes 0 to 9 are the ten singleton keys; InitGenesis writes nine of them, once each. -/
theorem initWrites_slots (ext : Ext) (g : Genesis) :
    (initWrites ext g).filter (fun w => Key.cls w.1 ≤ 9) = (slots g).map fun e => (e.1, some e.2) :=
  initWrites_filter ext g (· ≤ 9)

theorem get_init_slot {ext : Ext} {g : Genesis} {st : Store} (hi : Genesis.init ext [] g = .ok st) {k : Bytes}
    (hk : Key.cls k ≤ 9) (v : Val) : st.get k = some v ↔ (k, v) ∈ slots g :=
  get_init_of_filter hi (· ≤ 9) (initWrites_slots ext g) (by decide +kernel : slotKeys.Nodup) (decide_eq_true hk) v

theorem init_slot {ext : Ext} {g : Genesis} {st : Store} (hi : Genesis.init ext [] g = .ok st) :
    ∀ e ∈ slots g, st.get e.1 = some e.2 := fun e he =>
  have hk : Key.cls e.1 ≤ 9 := (by decide +kernel : ∀ k ∈ slotKeys, Key.cls k ≤ 9) _ (slots_keys g ▸ List.mem_map_of_mem he)
  (get_init_slot hi hk e.2).mpr he

/-- the classes are those of `handle_deletes_cls`: no handler deletes a slot. -/
theorem slot_cls {k : Bytes} (h : k ∈ slotKeys) :
    ¬ (Key.cls k = 1 ∨ Key.cls k = 10 ∨ Key.cls k = 13 ∨ Key.cls k = 14) :=
  (by decide +kernel : ∀ k ∈ slotKeys, ¬ (Key.cls k = 1 ∨ Key.cls k = 10 ∨ Key.cls k = 13 ∨ Key.cls k = 14)) k h

/-- `st` holds the entries of `slots g`, by name. -/
structure Slots (g : Genesis) (st : Store) : Prop where
  owner : st.get Key.owner = some (.role g.owner)
  attesterManager : st.get Key.attesterManager = some (.role g.attesterManager)
  pauser : st.get Key.pauser = some (.role g.pauser)
  tokenController : st.get Key.tokenController = some (.role g.tokenController)
  burnPaused : st.get Key.burnPaused = some (.flag (g.burnPaused.getD true))
  sendPaused : st.get Key.sendPaused = some (.flag (g.sendPaused.getD true))
  maxBody : st.get Key.maxBody = some (.size (g.maxBody.getD 8000))
  nextNonce : st.get Key.nextNonce = some (nonceVal g.nextNonce)
  threshold : st.get Key.threshold = some (.threshold (g.threshold.getD 1))

theorem slots_init {ext : Ext} {g : Genesis} {st : Store} (hi : Genesis.init ext [] g = .ok st) : Slots g st := by
  have h := init_slot hi
  simp only [slots, List.forall_mem_cons] at h
  obtain ⟨h0, h1, h2, h3, h4, h5, h6, h7, h8, _⟩ := h
  exact ⟨h0, h1, h2, h3, h4, h5, h6, h7, h8⟩

theorem init_no_pending (ext : Ext) (g : Genesis) (st : Store) (h : Genesis.init ext [] g = .ok st) :
    st.get Key.pendingOwner = none :=
  -- the pending owner's key has class 1 ≤ 9, and is none of the nine slot keys
  Option.eq_none_iff_forall_ne_some.mpr fun v hv =>
    (by decide +kernel : Key.pendingOwner ∉ slotKeys)
      (slots_keys g ▸ List.mem_map_of_mem (f := Prod.fst) ((get_init_slot h (by decide) v).mp hv))

theorem good_init (ext : Ext) (g : Genesis) (st : Store) (h : Genesis.init ext [] g = .ok st) : Good ext st := by
  rw [← (init_ok.mp h).2]
  refine good_applyAll _ (good_nil ext) fun w hw => ?_
  rw [initWrites_eq_blocks] at hw
  obtain ⟨b, _, hb⟩ := List.mem_flatMap.mp hw
  exact b.ok w hb

/-- after InitGenesis the four role slots are set (possibly to the empty string — an empty value is stored
    and read back as present). -/
theorem init_roles_set (ext : Ext) (g : Genesis) (st : Store) (h : Genesis.init ext [] g = .ok st) :
    RolesSet st ∧ getRole st Key.owner = some g.owner ∧ getRole st Key.attesterManager = some g.attesterManager ∧
    getRole st Key.pauser = some g.pauser ∧ getRole st Key.tokenController = some g.tokenController ∧
    getRole st Key.pendingOwner = none := by
  have s := slots_init h
  have h0 := getRole_some.mpr s.owner
  have h1 := getRole_some.mpr s.attesterManager
  have h2 := getRole_some.mpr s.pauser
  have h3 := getRole_some.mpr s.tokenController
  exact ⟨⟨Option.isSome_of_eq_some h0, Option.isSome_of_eq_some h1, Option.isSome_of_eq_some h2, Option.isSome_of_eq_some h3⟩,
    h0, h1, h2, h3, by rw [getRole, init_no_pending ext g st h]⟩

/-- the scalars after InitGenesis: the given values, or the documented defaults (paused, 8000, 0, 1). -/
theorem init_scalars (ext : Ext) (g : Genesis) (st : Store) (h : Genesis.init ext [] g = .ok st) :
    getFlag st Key.burnPaused = some (g.burnPaused.getD true) ∧ getFlag st Key.sendPaused = some (g.sendPaused.getD true) ∧
    getSize st = some (g.maxBody.getD 8000) ∧ getNextNonce st = some (g.nextNonce.getD (0, 0)) ∧
    getThreshold st = some (g.threshold.getD 1) := by
  have s := slots_init h
  refine ⟨getFlag_some.mpr s.burnPaused, getFlag_some.mpr s.sendPaused, getSize_some.mpr s.maxBody, getNextNonce_some.mpr ?_,
    getThreshold_some.mpr s.threshold⟩
  rw [s.nextNonce]
  cases g.nextNonce <;> rfl

/-- **export(init g) = g, as sets, with defaults filled in.**  For every genesis accepted by validation and by
    initialisation, exporting after initialising succeeds and yields the same roles, the same flags, the
    scalars with absent optionals replaced by their documented defaults, and exactly the entries of each of
    the five keyed lists (nothing lost, nothing invented, nothing silently overwritten). -/
theorem export_init (ext : Ext) (g : Genesis) (st : Store) (hv : g.validate ext = true)
    (hi : Genesis.init ext [] g = .ok st) :
    ∃ g', exportG st = .ok g' ∧
      g'.owner = g.owner ∧ g'.attesterManager = g.attesterManager ∧ g'.pauser = g.pauser ∧ g'.tokenController = g.tokenController ∧
      g'.burnPaused = g.burnPaused ∧ g'.sendPaused = g.sendPaused ∧
      g'.maxBody = some (g.maxBody.getD 8000) ∧ g'.nextNonce = some (g.nextNonce.getD (0, 0)) ∧
      g'.threshold = some (g.threshold.getD 1) ∧
      (∀ a, a ∈ g'.attesters ↔ a ∈ g.attesters) ∧ (∀ x, x ∈ g'.limits ↔ x ∈ g.limits) ∧
      (∀ x, x ∈ g'.pairs ↔ x ∈ g.pairs) ∧ (∀ x, x ∈ g'.used ↔ x ∈ g.used) ∧ (∀ x, x ∈ g'.messengers ↔ x ∈ g.messengers) := by
  obtain ⟨_, r1, r2, r3, r4, _⟩ := init_roles_set ext g st hi
  obtain ⟨s1, s2, s3, s4, s5⟩ := init_scalars ext g st hi
  obtain ⟨n1, n2, n3, n4, n5, hbp, hsp⟩ := validate_rejects_collisions ext g hv
  obtain ⟨bp, hbp⟩ := Option.isSome_iff_exists.mp hbp
  obtain ⟨sp, hsp⟩ := Option.isSome_iff_exists.mp hsp
  have list {α} (c : Coll ext α) (hn : ((c.list g).map c.key).Nodup) (x : α) :
      x ∈ c.list (exported st g.owner g.attesterManager g.pauser g.tokenController) ↔ x ∈ c.list g := by
    rw [c.export_list, c.mem_scan (good_init ext g st hi), c.get_init hi hn]
  refine ⟨_, exportG_ok.mpr ⟨_, r1, _, r2, _, r3, _, r4, rfl⟩, rfl, rfl, rfl, rfl, ?_, ?_, s3, s4, s5,
    list (.attesters ext) n1, list (.limits ext) n2, list (.pairs ext) n3, list (.used ext) n4, list (.messengers ext) n5⟩
  · rw [exported, s1, hbp]; rfl
  · rw [exported, s2, hsp]; rfl

/-- the default genesis (`types.DefaultGenesis`, `AppModuleBasic.DefaultGenesis`) passes validation, whatever the
    external functions are. -/
theorem default_validates (ext : Ext) : Genesis.default.validate ext = true := by
  simp [Genesis.validate, Genesis.default, Genesis.roleOk, noDup]

/-- … and initialises (no threshold 0): the chain it builds exists. -/
theorem default_initialises (ext : Ext) : ∃ st, Genesis.init ext [] Genesis.default = .ok st :=
  ⟨_, init_ok.mpr ⟨nofun, rfl⟩⟩

/-- **a chain started from the default genesis exports the default genesis with the documented defaults filled in**
    (body size 8000, nonce 0, threshold 1) and no registry entry — and that export initialises the very same state
    again (`export_init` and `init_export_partial` at the default genesis). -/
theorem default_roundtrip (ext : Ext) (st : Store) (hi : Genesis.init ext [] Genesis.default = .ok st) :
    ∃ g', exportG st = .ok g' ∧
      g'.owner = [] ∧ g'.attesterManager = [] ∧ g'.pauser = [] ∧ g'.tokenController = [] ∧
      g'.burnPaused = some false ∧ g'.sendPaused = some false ∧
      g'.maxBody = some 8000 ∧ g'.nextNonce = some (0, 0) ∧ g'.threshold = some 1 ∧
      g'.attesters = [] ∧ g'.limits = [] ∧ g'.pairs = [] ∧ g'.used = [] ∧ g'.messengers = [] := by
  obtain ⟨g', he, h1, h2, h3, h4, h5, h6, h7, h8, h9, ha, hl, hp, hu, hm⟩ :=
    export_init ext Genesis.default st (default_validates ext) hi
  have nil_of {α} {l : List α} (h : ∀ x, x ∈ l ↔ x ∈ []) : l = [] :=
    List.eq_nil_iff_forall_not_mem.mpr fun x hx => List.not_mem_nil ((h x).mp hx)
  exact ⟨g', he, h1, h2, h3, h4, h5, h6, h7, h8, h9, nil_of ha, nil_of hl, nil_of hp, nil_of hu, nil_of hm⟩

/-- a store the module can be in after genesis: the four roles and five scalars are present, and no ownership
    transfer is in flight (the pending owner is what `pending_owner_lost` shows cannot survive). -/
structure Exportable (st : Store) : Prop where
  roles : RolesSet st
  noPending : st.get Key.pendingOwner = none
  burnFlag : (getFlag st Key.burnPaused).isSome
  sendFlag : (getFlag st Key.sendPaused).isSome
  size : (getSize st).isSome
  nonce : (getNextNonce st).isSome
  threshold : ∃ t, getThreshold st = some t ∧ t ≠ 0

/-- re-importing an export writes back into each slot what the store holds there. -/
theorem slots_exported {st : Store} (hx : Exportable st) {o a p t : Bytes} (ho : getRole st Key.owner = some o)
    (ha : getRole st Key.attesterManager = some a) (hp : getRole st Key.pauser = some p)
    (ht : getRole st Key.tokenController = some t) : Slots (exported st o a p t) st := by
  obtain ⟨bf, hbf⟩ := Option.isSome_iff_exists.mp hx.burnFlag
  obtain ⟨sf, hsf⟩ := Option.isSome_iff_exists.mp hx.sendFlag
  obtain ⟨sz, hsz⟩ := Option.isSome_iff_exists.mp hx.size
  obtain ⟨nn, hnn⟩ := Option.isSome_iff_exists.mp hx.nonce
  obtain ⟨th, hth, _⟩ := hx.threshold
  refine ⟨getRole_some.mp ho, getRole_some.mp ha, getRole_some.mp hp, getRole_some.mp ht, ?_, ?_, ?_, ?_, ?_⟩
  · rw [exported, hbf]; exact getFlag_some.mp hbf
  · rw [exported, hsf]; exact getFlag_some.mp hsf
  · rw [exported, hsz]; exact getSize_some.mp hsz
  · rw [exported, hnn]; exact getNextNonce_some.mp hnn
  · rw [exported, hth]; exact getThreshold_some.mp hth

/-- **init(export st) = st** — the round trip in the other direction, for every store the module can be in
    after genesis *with no ownership transfer in flight*: exporting succeeds, the export passes the duplicate
    checks, importing it into an empty chain succeeds and rebuilds the very same store (same keys, same
    values, hence same iteration order and same answers to every query).  The excluded case is exactly the
    known finding `pending_owner_lost`. -/
theorem init_export_partial (ext : Ext) (st : Store) (hg : Good ext st) (hx : Exportable st) :
    ∃ g, exportG st = .ok g ∧ Genesis.init ext [] g = .ok st ∧
      (g.attesters.map Key.attester).Nodup ∧ (g.limits.map fun l => Key.limit l.1).Nodup ∧
      (g.pairs.map fun p => Key.tokenPair ext p.1 p.2.1).Nodup ∧ (g.used.map fun u => Key.usedNonce u.1 u.2).Nodup ∧
      (g.messengers.map fun m => Key.messenger m.1).Nodup := by
  obtain ⟨o, ho⟩ := Option.isSome_iff_exists.mp hx.roles.owner
  obtain ⟨a, ha⟩ := Option.isSome_iff_exists.mp hx.roles.attesterManager
  obtain ⟨p, hp⟩ := Option.isSome_iff_exists.mp hx.roles.pauser
  obtain ⟨t, ht⟩ := Option.isSome_iff_exists.mp hx.roles.tokenController
  obtain ⟨th, hth, hth0⟩ := hx.threshold
  have nd {α} (c : Coll ext α) : ((c.list (exported st o a p t)).map c.key).Nodup := by
    rw [c.export_list]; exact c.nodup_scan hg
  obtain ⟨st', hi⟩ : ∃ st', Genesis.init ext [] (exported st o a p t) = .ok st' :=
    ⟨_, init_ok.mpr ⟨fun h => hth0 (Option.some.inj (hth.symm.trans h)), rfl⟩⟩
  refine ⟨_, exportG_ok.mpr ⟨o, ho, a, ha, p, hp, t, ht, rfl⟩, ?_, nd (.attesters ext), nd (.limits ext), nd (.pairs ext),
    nd (.used ext), nd (.messengers ext)⟩
  have hg' := good_init ext _ st' hi
  suffices e : st' = st by rw [hi, e]
  refine Store.ext_of_get hg'.wf hg.wf fun k => Option.ext fun v => ?_
  have coll {α} (c : Coll ext α) (x : α) : st'.get (c.key x) = some (c.val x) ↔ st.get (c.key x) = some (c.val x) := by
    rw [c.get_init hi (nd c), c.export_list, c.mem_scan hg]
  have s' := slots_init hi
  have s := slots_exported hx ho ha hp ht
  -- both stores are well typed: compare them entry by entry, along the kinds of entry a well-typed store has
  suffices h : ValOK ext k v → (st'.get k = some v ↔ st.get k = some v) from
    ⟨fun h' => (h (hg'.typed k v h')).mp h', fun h' => (h (hg.typed k v h')).mpr h'⟩
  intro hty
  cases v with
  | role r =>
    rcases hty with rfl | rfl | rfl | rfl | rfl
    · rw [s'.owner, s.owner]
    · rw [init_no_pending ext _ st' hi, hx.noPending]
    · rw [s'.attesterManager, s.attesterManager]
    · rw [s'.pauser, s.pauser]
    · rw [s'.tokenController, s.tokenController]
  | flag b =>
    rcases hty with rfl | rfl
    · rw [s'.burnPaused, s.burnPaused]
    · rw [s'.sendPaused, s.sendPaused]
  | size n => cases hty; rw [s'.maxBody, s.maxBody]
  | threshold n => cases hty; rw [s'.threshold, s.threshold]
  | nonce d n =>
    rcases hty with rfl | rfl
    · rw [s'.nextNonce, s.nextNonce]
    · exact coll (.used ext) (d, n)
  | attester x => cases hty; exact coll (.attesters ext) x
  | limit d x => cases hty; exact coll (.limits ext) (d, x)
  | pair d tk l => cases hty; exact coll (.pairs ext) (d, tk, l)
  | messenger d x => cases hty; exact coll (.messengers ext) (d, x)

/-- what a store needs, beyond being well typed, for `exportable_of_settled`: the nine slots InitGenesis fills are filled, and
    the stored threshold is not 0 (InitGenesis refuses 0).  Preserved by every delivery: no handler deletes a slot or writes 0. -/
structure Settled (st : Store) : Prop where
  filled : ∀ k ∈ slotKeys, (st.get k).isSome
  thr : ∀ t, st.get Key.threshold = some (.threshold t) → t ≠ 0

theorem Settled.applyAll {st : Store} {ws : List Store.Write} (hwf : st.WF) (hs : Settled st)
    (hdel : ∀ k ∈ slotKeys, (k, none) ∉ ws) (hthr : (Key.threshold, some (.threshold 0)) ∉ ws) :
    Settled (st.applyAll ws) := by
  have hget := fun k => Store.get_applyAll st ws k hwf
  constructor
  · intro k hk
    rw [hget]
    cases hl : lastWrite ws k with
    | none => exact hs.filled k hk
    | some ov =>
      cases ov with
      | some v => rfl
      | none => exact absurd (lastWrite_mem hl) (hdel k hk)
  · intro t ht e
    rw [hget] at ht
    cases hl : lastWrite ws Key.threshold with
    | none => rw [hl] at ht; exact hs.thr t ht e
    | some ov => rw [hl] at ht; cases ht; exact hthr (e ▸ lastWrite_mem hl)

theorem settled_deliver (ext : Ext) (cfg : Cfg) (w : World) (f : List Bool) (m : Msg) (hg : Good ext w.store)
    (hs : Settled w.store) : Settled (deliver ext cfg w f m).1.store := by
  cases ho : handle ext cfg w.store { w.ledger with faults := f } m with
  | error e => rw [deliver_error ho]; exact hs
  | ok o =>
    rw [deliver_ok ho]
    refine hs.applyAll hg.wf (fun k hk hm => slot_cls hk (handle_deletes_cls ext cfg _ _ m o ho _ hm rfl)) fun hm => ?_
    -- the only message that writes the threshold slot is UpdateSignatureThreshold, which rejects 0
    have hc : (docClasses m).contains 9 = true := List.contains_iff_mem.mpr (handle_writes_cls ho _ hm)
    rw [handle_writes ho] at hm
    cases m with
    | updateSignatureThreshold fr n =>
      cases List.mem_singleton.mp hm
      obtain ⟨_, h0, _⟩ := (updateSignatureThreshold_ok ..).mp ho
      exact h0 rfl
    | _ => cases hc

theorem settled_run (ext : Ext) (cfg : Cfg) (h : History) (w : World) (hg : Good ext w.store) (hs : Settled w.store) :
    Settled (runState ext cfg w h).store :=
  run_inv_good Settled (settled_deliver ext cfg) h w hg hs

/-- in a well-typed store a filled slot holds a value of the slot's kind. -/
theorem exportable_of_settled (ext : Ext) (st : Store) (hg : Good ext st) (hs : Settled st)
    (hp : st.get Key.pendingOwner = none) : Exportable st := by
  have hf := hs.filled
  simp only [slotKeys, List.forall_mem_cons] at hf
  obtain ⟨f0, f1, f2, f3, f4, f5, f6, f7, f8, _⟩ := hf
  have kind {k : Bytes} {c : Nat} (hc : Key.cls k = c) (h : (st.get k).isSome) :
      ∃ v, st.get k = some v ∧ v.classes.contains c = true := by
    obtain ⟨v, hv⟩ := Option.isSome_iff_exists.mp h
    exact ⟨v, hv, hc ▸ (hg.typed k v hv).cls_mem⟩
  -- per slot: the value found has a kind the class of the key admits (`kind`), `cases hm` leaves that one kind,
  -- and the reader of the slot returns its payload
  refine ⟨⟨?_, ?_, ?_, ?_⟩, hp, ?_, ?_, ?_, ?_, ?_⟩
  · obtain ⟨v, hv, hm⟩ := kind Key.cls_owner f0
    cases v <;> cases hm
    rw [getRole_some.mpr hv]; rfl
  · obtain ⟨v, hv, hm⟩ := kind Key.cls_attesterManager f1
    cases v <;> cases hm
    rw [getRole_some.mpr hv]; rfl
  · obtain ⟨v, hv, hm⟩ := kind Key.cls_pauser f2
    cases v <;> cases hm
    rw [getRole_some.mpr hv]; rfl
  · obtain ⟨v, hv, hm⟩ := kind Key.cls_tokenController f3
    cases v <;> cases hm
    rw [getRole_some.mpr hv]; rfl
  · obtain ⟨v, hv, hm⟩ := kind Key.cls_burnPaused f4
    cases v <;> cases hm
    rw [getFlag_some.mpr hv]; rfl
  · obtain ⟨v, hv, hm⟩ := kind Key.cls_sendPaused f5
    cases v <;> cases hm
    rw [getFlag_some.mpr hv]; rfl
  · obtain ⟨v, hv, hm⟩ := kind Key.cls_maxBody f6
    cases v <;> cases hm
    rw [getSize_some.mpr hv]; rfl
  · obtain ⟨v, hv, hm⟩ := kind Key.cls_nextNonce f7
    cases v <;> cases hm
    rw [(getNextNonce_some (p := (_, _))).mpr hv]; rfl
  · obtain ⟨v, hv, hm⟩ := kind Key.cls_threshold f8
    cases v <;> cases hm
    exact ⟨_, getThreshold_some.mpr hv, hs.thr _ hv⟩

theorem settled_init (ext : Ext) (g : Genesis) (st : Store) (h : Genesis.init ext [] g = .ok st) : Settled st := by
  refine ⟨fun k hk => ?_, fun t ht e => ?_⟩
  · obtain ⟨e, he, rfl⟩ : ∃ e ∈ slots g, e.1 = k := List.mem_map.mp hk
    rw [init_slot h e he]; rfl
  · rw [(slots_init h).threshold] at ht
    cases ht
    exact (init_ok.mp h).1 ((Option.getD_eq_iff.mp e).resolve_right fun h => Nat.one_ne_zero h.2)

/-- **A chain restarted from its own export is the same chain**: for every genesis `g`, every history of
    transactions (with any dependency faults) run from the state `InitGenesis g` builds, if no ownership
    transfer is in flight at the end, then exporting the final state succeeds, the export has no key
    collisions, and importing it into an empty chain rebuilds exactly the final store. -/
theorem roundtrip_reachable (ext : Ext) (cfg : Cfg) (g : Genesis) (st0 : Store) (led : Ledger) (h : History)
    (hi : Genesis.init ext [] g = .ok st0)
    (hp : (runState ext cfg ⟨st0, led⟩ h).store.get Key.pendingOwner = none) :
    ∃ g', exportG (runState ext cfg ⟨st0, led⟩ h).store = .ok g' ∧
      Genesis.init ext [] g' = .ok (runState ext cfg ⟨st0, led⟩ h).store := by
  have hg := good_run ext cfg h ⟨st0, led⟩ (good_init ext g st0 hi)
  have hs := settled_run ext cfg h ⟨st0, led⟩ (good_init ext g st0 hi) (settled_init ext g st0 hi)
  obtain ⟨g', h1, h2, _⟩ := init_export_partial ext _ hg (exportable_of_settled ext _ hg hs hp)
  exact ⟨g', h1, h2⟩

/-- the round trip for chains of multi-message transactions. -/
theorem roundtrip_reachable_txs (ext : Ext) (cfg : Cfg) (g : Genesis) (st0 : Store) (led : Ledger) (txs : List Txn)
    (hl : led.faults = []) (hi : Genesis.init ext [] g = .ok st0)
    (hp : (runTxs ext cfg ⟨st0, led⟩ txs).1.store.get Key.pendingOwner = none) :
    ∃ g', exportG (runTxs ext cfg ⟨st0, led⟩ txs).1.store = .ok g' ∧
      Genesis.init ext [] g' = .ok (runTxs ext cfg ⟨st0, led⟩ txs).1.store := by
  rw [runTxs_flatten ext cfg txs _ (settle_of_faults_nil hl)] at hp ⊢
  exact roundtrip_reachable ext cfg g st0 led _ hi hp

/-- non-vacuity: the state any accepted genesis builds is itself exportable (so `init ∘ export ∘ init = init`). -/
theorem exportable_of_init (ext : Ext) (g : Genesis) (st : Store) (h : Genesis.init ext [] g = .ok st) : Exportable st :=
  exportable_of_settled ext st (good_init ext g st h) (settled_init ext g st h) (init_no_pending ext g st h)

/-- `ExportGenesis` does not read the pending-owner entry. -/
theorem export_ignores_pending (st : Store) : exportG (st.del Key.pendingOwner) = exportG st := by
  have g (k : Bytes) (h : Key.cls k ≠ 1) : (st.del Key.pendingOwner).get k = st.get k :=
    Store.get_del_other _ _ _ (Key.ne_of_cls h)
  have sc (p : Bytes) (h : isPrefixOf p Key.pendingOwner = false) : (st.del Key.pendingOwner).scan p = st.scan p :=
    Store.scan_del_other _ _ _ h
  simp only [exportG, getRole, attestersOf, scanMap, getFlag, getSize, getNextNonce, getThreshold,
    g Key.owner (by simp), g Key.attesterManager (by simp), g Key.pauser (by simp), g Key.tokenController (by simp),
    g Key.burnPaused (by simp), g Key.sendPaused (by simp), g Key.maxBody (by simp), g Key.nextNonce (by simp),
    g Key.threshold (by simp), sc AttesterKeyPrefix rfl, sc PerMessageBurnLimitKeyPrefix rfl, sc TokenPairKeyPrefix rfl,
    sc UsedNonceKeyPrefix rfl, sc RemoteTokenMessengerKeyPrefix rfl]

/-- **The known finding, exactly**: for every state reachable from a genesis by any history — with or without
    an ownership transfer in flight — exporting and importing into an empty chain rebuilds the store *minus the
    pending-owner entry*: every other entry survives, and that one never does. -/
theorem roundtrip_loses_only_pending (ext : Ext) (cfg : Cfg) (g : Genesis) (st0 : Store) (led : Ledger) (h : History)
    (hi : Genesis.init ext [] g = .ok st0) :
    ∃ g', exportG (runState ext cfg ⟨st0, led⟩ h).store = .ok g' ∧
      Genesis.init ext [] g' = .ok ((runState ext cfg ⟨st0, led⟩ h).store.del Key.pendingOwner) := by
  have hg := good_run ext cfg h ⟨st0, led⟩ (good_init ext g st0 hi)
  have hs := settled_run ext cfg h ⟨st0, led⟩ (good_init ext g st0 hi) (settled_init ext g st0 hi)
  generalize (runState ext cfg ⟨st0, led⟩ h).store = st at hg hs
  have hg' : Good ext (st.del Key.pendingOwner) := good_applyAll [(Key.pendingOwner, none)] hg (by simp)
  have hs' : Settled (st.del Key.pendingOwner) :=
    hs.applyAll hg.wf (ws := [(Key.pendingOwner, none)])
      (fun k hk hm => slot_cls hk (.inl (by cases List.mem_singleton.mp hm; rfl))) (by simp)
  obtain ⟨g', h1, h2, _⟩ := init_export_partial ext _ hg'
    (exportable_of_settled ext _ hg' hs' (Store.get_del_same _ _ hg.wf))
  exact ⟨g', export_ignores_pending st ▸ h1, h2⟩

def toyExt : Ext := ⟨fun b => b, fun _ _ => none, fun b => some b, fun b => some b, id, fun _ _ => false, fun _ => false, id⟩

/-- a reachable state with an ownership transfer in flight: owner [1] has nominated [9]. -/
def inFlight : Store :=
  ((Store.applyAll [] (initWrites toyExt ⟨[1], [2], [3], [4], [], [], some false, some false, none, none, none, [], [], []⟩)).set
    Key.pendingOwner (.role [9]))

/-- **KNOWN FINDING (property C17, pending owner)**: exporting a state with an ownership transfer in flight and
    importing the export into an empty chain does NOT reproduce every stored entry — the pending-owner entry
    has no genesis field and is lost (the nominee's AcceptOwner then fails on the imported chain).
    Stated of a concrete reachable state; the same witness is replayed on the real code by the check. -/
theorem pending_owner_lost :
    ∃ g st', exportG inFlight = .ok g ∧ Genesis.init toyExt [] g = .ok st' ∧
      inFlight.get Key.pendingOwner = some (.role [9]) ∧ st'.get Key.pendingOwner = none := by
  -- the export ignores the nomination, and the store before it re-imports to itself, which holds no pending owner
  unfold inFlight
  generalize hst : Store.applyAll [] (initWrites toyExt _) = st0
  have hi0 := init_ok.mpr ⟨by decide, hst⟩
  have hp := init_no_pending _ _ _ hi0
  obtain ⟨g, he, hi, _⟩ := init_export_partial toyExt st0 (good_init _ _ _ hi0) (exportable_of_init _ _ _ hi0)
  rw [← export_ignores_pending, Store.del_set _ hp]
  exact ⟨g, st0, he, hi, Store.get_set_same .., hp⟩

/-! non-vacuity: the toy genesis is accepted by validation and by initialisation, so the state it builds is exportable and
    survives the round trip (the hypotheses of `export_init`, `init_export_partial`, `roundtrip_reachable` are met) -/
example : Genesis.validate Toy.ext Toy.genesis = true ∧ Genesis.init Toy.ext [] Toy.genesis = .ok Toy.st := ⟨by decide +kernel, rfl⟩
example : Exportable Toy.st := exportable_of_init Toy.ext Toy.genesis Toy.st rfl

end Cctp.C17
